import GradysProofs.Properties.C01
import GradysProofs.Properties.C02
import GradysProofs.Properties.C03
import GradysProofs.Properties.C04
import GradysProofs.Properties.C05
import GradysProofs.Properties.C06
import GradysProofs.Properties.C07
import GradysProofs.Properties.C08
import GradysProofs.Properties.C09
import GradysProofs.Properties.C10
import GradysProofs.Properties.C11
import GradysProofs.Properties.C12
import GradysProofs.Properties.C13
import GradysProofs.Properties.C14
import GradysProofs.Properties.C15
import GradysProofs.Properties.C16
import GradysProofs.Properties.C17
import GradysProofs.Properties.C18
import GradysProofs.Properties.C19
import GradysProofs.Properties.C20
