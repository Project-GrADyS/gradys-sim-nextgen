import GradysProofs.Lemmas.CameraLemmas
import GradysProofs.Lemmas.RealDist
/-
  The camera model over ℝ: the vocabulary of C19's statements (`edist3`, `cosAngle`, `InCone`,
  `shift`) and the lemmas behind them.
-/
open Real

namespace Camera

instance : LawfulOrderScalar ℝ where
  lt_le a b h := by
    rw [RealScalar.lt_eq] at h
    rw [RealScalar.le_eq]
    exact h.le
  one_le_one := by rw [RealScalar.le_eq]
  negone_le_negone := by rw [RealScalar.le_eq]
  negone_le_one := by
    rw [RealScalar.le_eq]
    simp only [RealScalar.ofInt_eq, RealScalar.neg_eq]
    norm_num
  acos_dom x h1 h2 := by
    rw [RealScalar.le_eq] at h1 h2
    simp only [RealScalar.ofInt_eq, RealScalar.neg_eq, Int.cast_one] at h1 h2
    rw [RealScalar.acos_eq, if_pos ⟨h1, h2⟩]
    rfl

noncomputable def edist3 (self other : V3 ℝ) : ℝ :=
  √((other.x - self.x) ^ 2 + (other.y - self.y) ^ 2 + (other.z - self.z) ^ 2)

/-- the same distance as the range and motion theorems speak of -/
theorem edist3_eq_realScalar (self other : V3 ℝ) : edist3 self other = RealScalar.edist3 self other :=
  rfl

/-- cosine of the angle between the camera axis and the direction to the node -/
noncomputable def cosAngle (c : Config ℝ) (self other : V3 ℝ) : ℝ :=
  ((axis c).x * (other.x - self.x) + (axis c).y * (other.y - self.y)
    + (axis c).z * (other.z - self.z)) / edist3 self other

/-- the cone predicate of the property: within reach, and (at the apex, or) the direction deviates
    from the axis by at most the cone angle θ (plus the source's tolerance) -/
def InCone (c : Config ℝ) (self other : V3 ℝ) : Prop :=
  edist3 self other ≤ c.reach ∧
    (edist3 self other = 0 ∨
      arccos (cosAngle c self other) - c.tol ≤ c.thetaDeg * (π / 180))

/-- the point `p` translated by `t` (`C19_translation`) -/
def shift (t p : V3 ℝ) : V3 ℝ := ⟨p.x + t.x, p.y + t.y, p.z + t.z⟩

theorem axis_unit (c : Config ℝ) : (axis c).x ^ 2 + (axis c).y ^ 2 + (axis c).z ^ 2 = 1 := by
  unfold axis
  simp only [RealScalar.mul_eq, RealScalar.sin_eq, RealScalar.cos_eq]
  rw [mul_pow, mul_pow, ← mul_add, cos_sq_add_sin_sq, mul_one, sin_sq_add_cos_sq]

theorem cdist_real (self other : V3 ℝ) : cdist self other = edist3 self other := rfl

theorem cdot_real (c : Config ℝ) (self other : V3 ℝ) : cdot c self other = cosAngle c self other := by
  unfold cdot cosAngle
  rw [cdist_real]
  unfold rel
  simp only [RealScalar.add_eq, RealScalar.mul_eq, RealScalar.div_eq, RealScalar.sub_eq]
  ring

/-- Cauchy–Schwarz in three variables.  Lagrange's identity: the right side exceeds the left by
    the sum of the three squares below. -/
theorem dot_sq_le (a b c x y z : ℝ) :
    (a * x + b * y + c * z) ^ 2 ≤ (a ^ 2 + b ^ 2 + c ^ 2) * (x ^ 2 + y ^ 2 + z ^ 2) := by
  linear_combination
    sq_nonneg (a * y - b * x) + sq_nonneg (a * z - c * x) + sq_nonneg (b * z - c * y)

/-- the normalised dot product is a genuine cosine: Cauchy–Schwarz with the unit axis -/
theorem cosAngle_mem (c : Config ℝ) (self other : V3 ℝ) (hd : 0 < edist3 self other) :
    -1 ≤ cosAngle c self other ∧ cosAngle c self other ≤ 1 := by
  have hcs := dot_sq_le (axis c).x (axis c).y (axis c).z
    (other.x - self.x) (other.y - self.y) (other.z - self.z)
  rw [axis_unit, one_mul, ← RealScalar.edist3_sq self other] at hcs
  rw [← abs_le, cosAngle, abs_div, abs_of_pos hd]
  exact div_le_one_of_le₀ (abs_le_of_sq_le_sq hcs hd.le) hd.le

theorem clamp_real (x : ℝ) : clamp x = max (-1) (min 1 x) := by
  unfold clamp
  simp only [RealScalar.max_eq, RealScalar.min_eq, RealScalar.ofInt_eq, RealScalar.neg_eq, Int.cast_one]

theorem acos_clamp_real (x : ℝ) : Scalar.acos? (clamp x) = some (arccos x) := by
  rw [clamp_real, RealScalar.acos_eq, if_pos (RealScalar.clamp_mem _), RealScalar.arccos_clamp]

theorem judge_detected_iff (c : Config ℝ) (self other : V3 ℝ) :
    judge c self other = .detected ↔ InCone c self other := by
  have hd0 : 0 ≤ edist3 self other := sqrt_nonneg _
  rw [judge_eq, cdist_real, cdot_real]
  unfold judgeWith InCone
  simp only [acos_clamp_real, RealScalar.gt_eq, RealScalar.sub_eq, RealScalar.radians_eq,
    RealScalar.ofInt_eq, Int.cast_zero]
  -- the four branches of `judge`: out of reach, out of angle, in the cone, at the apex
  split_ifs with h1 h2 h3
  · exact ⟨nofun, fun h => absurd h.1 (not_le.mpr h1)⟩
  · exact ⟨nofun,
      fun h => h.2.elim (fun h => absurd h h2.ne') (fun h => absurd h (not_le.mpr h3))⟩
  · exact ⟨fun _ => ⟨not_lt.mp h1, Or.inr (not_lt.mp h3)⟩, fun _ => rfl⟩
  · exact ⟨fun _ => ⟨not_lt.mp h1, Or.inl (le_antisymm (not_lt.mp h2) hd0)⟩, fun _ => rfl⟩

end Camera
