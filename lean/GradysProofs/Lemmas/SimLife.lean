import GradysProofs.Lemmas.SimShape
import GradysProofs.Lemmas.SimInv
/-
  The lifecycle shape invariant behind C05: the observations the property speaks about (`isLife`), what each
  function adds to them, and the invariant `LInv`.
-/
set_option linter.unusedSectionVars false

namespace Sim
variable {S σ : Type} [Scalar S]

def isLife : Obs S → Bool
  | .handlerInit _ => true
  | .afterStep _ _ _ => true
  | .handlerFinal _ => true
  | .callback _ .initialize _ => true
  | .callback _ .finish _ => true
  | _ => false

theorem filter_requests_nil {l : List (Obs S)} (h : ∀ o ∈ l, ∃ n, Obs.isRequestOf n o) :
    l.filter isLife = [] := by
  rw [List.filter_eq_nil_iff]
  intro o ho
  obtain ⟨n, hn⟩ := h o ho
  obtain ⟨_, _, rfl⟩ := hn.eq
  exact Bool.false_ne_true

theorem callback_life (cfg : Config S) (P : NodeId → Proto S σ) (n : NodeId) (cb : Callback S)
    (w : World S σ) :
    (callback cfg P n cb w).rtrace.filter isLife =
      (if isLife (.callback n cb (reportedTime cfg w)) then [Obs.callback n cb (reportedTime cfg w)] else [])
        ++ w.rtrace.filter isLife := by
  obtain ⟨l, hl, hq⟩ := callback_rtrace cfg P n cb w
  rw [hl, List.filter_append, filter_requests_nil (fun o ho => ⟨n, hq o ho⟩), List.nil_append, List.filter_cons]
  split <;> simp

theorem execEv_life (cfg : Config S) (P : NodeId → Proto S σ) (e : Ev (EvKind S)) (w : World S σ) :
    (execEv cfg P e w).rtrace.filter isLife = w.rtrace.filter isLife :=
  execEv_cases (motive := fun x => x.rtrace.filter isLife = w.rtrace.filter isLife) cfg P e w
    (fun _ _ _ _ _ => by rw [callback_life]; rfl) (fun _ _ _ _ _ => rfl)
    (fun _ _ _ _ => by rw [callback_life]; rfl) (fun _ => by rw [mobTick_rtrace])
    (fun _ _ _ => by rw [callback_life]; rfl)

theorem callbackAll_life (cfg : Config S) (P : NodeId → Proto S σ) (cb : Callback S)
    (hcb : ∀ n t, isLife (Obs.callback n cb t : Obs S) = true) (ns : List NodeId) (w : World S σ) :
    (callbackAll cfg P cb ns w).rtrace.filter isLife =
      (ns.map (fun n => Obs.callback n cb (reportedTime cfg w))).reverse ++ w.rtrace.filter isLife := by
  induction ns generalizing w with
  | nil => rfl
  | cons n ns ih =>
    rw [callbackAll_cons, ih, callback_life, if_pos (hcb n _),
      reportedTime_congr cfg ((Ext.lifecycle cfg).callback P n cb w).now, List.map_cons, List.reverse_cons,
      List.append_assoc]

/-- oldest first -/
def initBlock (cfg : Config S) : List (Obs S) :=
  cfg.handlers.map Obs.handlerInit ++ (List.range cfg.nNodes).map (fun n => Obs.callback n .initialize 0)

/-- oldest first -/
def finalBlock (cfg : Config S) (t : Int) : List (Obs S) :=
  (List.range cfg.nNodes).map (fun n => Obs.callback n .finish t) ++ cfg.handlers.map Obs.handlerFinal

/-- after-step fan-out for executed events given NEWEST first; result newest first -/
def afterBlocksR (cfg : Config S) : List (Ev (EvKind S)) → List (Obs S)
  | [] => []
  | e :: rest => (cfg.handlers.map (fun h => Obs.afterStep h rest.length e.ts)).reverse ++ afterBlocksR cfg rest

/-- oldest first; event `i` is 0-based -/
def afterBlocks (cfg : Config S) (es : List (Ev (EvKind S))) : List (Obs S) :=
  (afterBlocksR cfg es.reverse).reverse

theorem afterBlocks_nil (cfg : Config S) : afterBlocks cfg [] = [] := rfl

theorem afterBlocks_snoc (cfg : Config S) (es : List (Ev (EvKind S))) (e : Ev (EvKind S)) :
    afterBlocks cfg (es ++ [e]) =
      afterBlocks cfg es ++ cfg.handlers.map (fun h => Obs.afterStep h es.length e.ts) := by
  unfold afterBlocks
  simp [afterBlocksR]

theorem afterBlocks_executed (cfg : Config S) (w : World S σ) :
    afterBlocks cfg w.executed = (afterBlocksR cfg w.rexecuted).reverse := by
  unfold afterBlocks World.executed; rw [List.reverse_reverse]

structure LInv (cfg : Config S) (w : World S σ) : Prop where
  iter_eq : w.iter = w.rexecuted.length
  fresh : w.initialized = false →
    (∀ o ∈ w.rtrace, ∃ n, Obs.isRequestOf n o) ∧ w.rexecuted = [] ∧ w.loop.now = 0 ∧ w.finalized = false
  shape : w.initialized = true →
    w.rtrace.filter isLife =
      (if w.finalized then (finalBlock cfg (reportedTime cfg w)).reverse else [])
        ++ afterBlocksR cfg w.rexecuted ++ (initBlock cfg).reverse

theorem mem_afterBlocksR (cfg : Config S) (es : List (Ev (EvKind S))) {o : Obs S}
    (h : o ∈ afterBlocksR cfg es) : ∃ hn i t, o = Obs.afterStep hn i t := by
  induction es with
  | nil => cases h
  | cons e rest ih =>
    rcases List.mem_append.mp h with h | h
    · obtain ⟨hn, _, rfl⟩ := List.mem_map.mp (List.mem_reverse.mp h)
      exact ⟨hn, _, _, rfl⟩
    · exact ih h

theorem init_linv (cfg : Config S) (P : NodeId → Proto S σ) : LInv cfg (init cfg P) :=
  init_ind (by constructor <;> simp [init0, EL.empty]) (fun h => ⟨h.iter_eq, h.fresh, h.shape⟩)

theorem filter_isLife_hooks (f : String → Obs S) (hf : ∀ s, isLife (f s) = true) (hs : List String) :
    (hs.map f).reverse.filter isLife = (hs.map f).reverse := by
  rw [List.filter_eq_self]
  intro o ho
  obtain ⟨s, _, rfl⟩ := List.mem_map.mp (List.mem_reverse.mp ho)
  exact hf s

theorem initialise_shape (cfg : Config S) (P : NodeId → Proto S σ) (w : World S σ)
    (h : LInv cfg w) (hi : w.initialized = false) : LInv cfg (initialise cfg P w) := by
  obtain ⟨hreq, hex, hnow, hfin⟩ := h.fresh hi
  have e := (Ext.lifecycle cfg).initialise P w
  have hp := initialise_flags cfg P w
  refine ⟨?_, fun hc => (by rw [hp.initialized] at hc; cases hc), fun _ => ?_⟩
  · rw [hp.iter, e.rexecuted]; exact h.iter_eq
  · have ht0 : reportedTime cfg (logAll Obs.handlerInit cfg.handlers { w with initialized := true }) = 0 := by
      rcases reportedTime_cases cfg (logAll Obs.handlerInit cfg.handlers { w with initialized := true }) with ht | ht
      · exact ht.trans ((((Ext.lifecycle cfg).logAll Obs.handlerInit (fun _ => rfl) _ _).now).trans hnow)
      · exact ht
    -- so far only requests were observed and the clock is 0: what is appended is `initBlock`, reversed
    rw [hp.finalized.trans hfin, e.rexecuted, hex, initialise_eq, callbackAll_life cfg P .initialize (fun _ _ => rfl),
      logAll_rtrace, ht0, List.filter_append, filter_isLife_hooks _ (fun _ => rfl)]
    simp [filter_requests_nil hreq, initBlock, afterBlocksR]

theorem finalise_shape (cfg : Config S) (P : NodeId → Proto S σ) (w : World S σ)
    (h : LInv cfg w) (hi : w.initialized = true) (hf : w.finalized = false) :
    LInv cfg (finalise cfg P w) := by
  have e := (Ext.lifecycle cfg).finalise P w
  have hfl := finalise_flags cfg P w
  refine ⟨?_, fun hc => absurd (hi.symm.trans (hfl.initialized.symm.trans hc)) (by simp), fun _ => ?_⟩
  · rw [hfl.iter, e.rexecuted]; exact h.iter_eq
  · -- one `finish` per node at the time reported now, then the handlers' block, on top of the shape so far
    rw [hfl.finalized, e.rexecuted, reportedTime_congr cfg e.now, finalise_rtrace cfg P hf, List.filter_append,
      callbackAll_life cfg P .finish (fun _ _ => rfl), filter_isLife_hooks _ (fun _ => rfl), h.shape hi, hf]
    simp [finalBlock]

theorem execStep_shape (cfg : Config S) (P : NodeId → Proto S σ)
    (e : Ev (EvKind S)) (rest : List (Ev (EvKind S))) (w : World S σ)
    (h : LInv cfg w) (hi : w.initialized = true) (hf : w.finalized = false) :
    LInv cfg (execStep cfg P e rest w) := by
  have hx := execStep_ext cfg P e rest w
  have hfl := execStep_flags cfg P e rest w
  have hit : (execEv cfg P e (popped e rest w)).iter = w.rexecuted.length :=
    (execEv_flags cfg P e _).iter.trans h.iter_eq
  refine ⟨?_, fun hc => absurd (hi.symm.trans (hfl.initialized.symm.trans hc)) (by simp), fun _ => ?_⟩
  · rw [hfl.iter, hx.rexecuted]
    exact congrArg (· + 1) h.iter_eq
  · -- the event's own callback is no lifecycle observation; the hooks append one after-step block, numbered
    -- by the counter, which is the number of events executed before
    rw [hfl.finalized.trans hf, hx.rexecuted, popped_rexecuted, execStep_eq, hooks_rtrace, List.filter_append,
      filter_isLife_hooks _ (fun _ => rfl), execEv_life, hit, popped_rtrace, h.shape hi, hf]
    simp [afterBlocksR]

/-- `LInv` ties the flags and the counter to the trace, so it is not kept along a bare write of them
    (`Lifecycle.flags`): initialisation, finalisation and the step are taken whole instead. -/
theorem step_linv (cfg : Config S) (P : NodeId → Proto S σ) (w : World S σ)
    (h : LInv cfg w) : LInv cfg (step cfg P w).1 :=
  step_keeps (I := LInv cfg)
    (fun w h => prep_cases cfg P w (fun _ => h) (initialise_shape cfg P w h))
    (finalise_shape cfg P) (fun w e rest h hi hf _ _ => execStep_shape cfg P e rest w h hi hf) h

/-- a request program issued from outside any callback — at any moment of the run — adds only request
    observations: the lifecycle shape is untouched -/
theorem runProg_linv (cfg : Config S) (n : NodeId) (p : Prog S σ) (w : World S σ) (h : LInv cfg w) :
    LInv cfg (runProg cfg n p w).1 := by
  have e := (Ext.lifecycle cfg).runProg n p w
  have hfl := (SameFlags.handler cfg).runProg n p w
  obtain ⟨l, hl, hq⟩ := runProg_rtrace cfg n p w
  refine ⟨?_, fun hi => ?_, fun hi => ?_⟩
  · rw [hfl.iter, e.rexecuted]; exact h.iter_eq
  · obtain ⟨hreq, hex, hnow, hfin⟩ := h.fresh (hfl.initialized.symm.trans hi)
    refine ⟨fun o ho => ?_, e.rexecuted.trans hex, e.now.trans hnow, hfl.finalized.trans hfin⟩
    rw [hl] at ho
    rcases List.mem_append.mp ho with ho | ho
    · exact ⟨n, hq o ho⟩
    · exact hreq o ho
  · rw [hl, List.filter_append, filter_requests_nil (fun o ho => ⟨n, hq o ho⟩), List.nil_append,
      h.shape (hfl.initialized.symm.trans hi), hfl.finalized, e.rexecuted, reportedTime_congr cfg e.now]

theorem initWith_linv (cfg : Config S) (P : NodeId → Proto S σ) (pre : List (NodeId × Prog S σ)) :
    LInv cfg (initWith cfg P pre) ∧ (initWith cfg P pre).initialized = false :=
  -- by induction and not through `reachable_linv`: the second half holds only before the first step
  initWith_induction (C := fun w => LInv cfg w ∧ w.initialized = false)
    ⟨init_linv cfg P, (init_flags cfg P).1⟩
    (fun n p w h => ⟨runProg_linv cfg n p w h.1, ((SameFlags.handler cfg).runProg n p w).initialized.trans h.2⟩) pre

/-- induction over `Reachable` for an invariant that escaped exceptions would break (`LInv`); the others
    use `ReachableT.induction` -/
theorem Reachable.rec_inv {cfg : Config S} {P : NodeId → Proto S σ} {I : World S σ → Prop}
    (h0 : I (Sim.init cfg P))
    (hs : ∀ w, Reachable cfg P w → I w → I (Sim.step cfg P w).1)
    (he : ∀ w n p, Reachable cfg P w → I w → I (runProg cfg n p w).1)
    {w : World S σ} (h : Reachable cfg P w) : I w := by
  induction h with
  | init => exact h0
  | step hw ih => exact hs _ hw ih
  | ext n p hw ih => exact he _ n p hw ih

/-- Over `Reachable` only: along `stepRaised` the event is consumed but the after-step hooks and the
    counter are skipped, so `iter_eq` and the after-step part of `shape` fail in `ReachableT`. -/
theorem reachable_linv {cfg : Config S} {P : NodeId → Proto S σ} {w : World S σ}
    (h : Reachable cfg P w) : LInv cfg w :=
  h.rec_inv (init_linv cfg P) (fun w _ hw => step_linv cfg P w hw)
    (fun w n p _ hw => runProg_linv cfg n p w hw)

end Sim
