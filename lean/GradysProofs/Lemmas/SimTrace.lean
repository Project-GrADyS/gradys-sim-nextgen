import GradysProofs.Lemmas.SimInv
/-
  The times reported to protocol callbacks: every callback observes `reportedTime` of the moment
  it runs; along the trace these times never decrease.
-/
set_option linter.unusedSectionVars false

namespace Sim
variable {S σ : Type} [Scalar S]

def cbTimes (tr : List (Obs S)) : List Int :=
  tr.filterMap (fun o => match o with | .callback _ _ t => some t | _ => none)

theorem mem_cbTimes {tr : List (Obs S)} {t : Int} :
    t ∈ cbTimes tr ↔ ∃ n cb, Obs.callback n cb t ∈ tr := by
  unfold cbTimes
  simp only [List.mem_filterMap]
  constructor
  · rintro ⟨o, ho, h⟩
    cases o <;> simp at h
    subst h
    exact ⟨_, _, ho⟩
  · rintro ⟨n, cb, h⟩
    exact ⟨_, h, rfl⟩

theorem cbTimes_append (a b : List (Obs S)) : cbTimes (a ++ b) = cbTimes a ++ cbTimes b := by
  unfold cbTimes; exact List.filterMap_append

theorem cbTimes_trace (w : World S σ) : cbTimes w.trace = (cbTimes w.rtrace).reverse :=
  List.filterMap_reverse

structure TInv (cfg : Config S) (w : World S σ) : Prop where
  le_now : ∀ t ∈ cbTimes w.rtrace, t ≤ reportedTime cfg w
  /-- newest first: non-increasing, i.e. the trace in time order is non-decreasing -/
  mono : (cbTimes w.rtrace).Pairwise (fun a b => b ≤ a)

/-- everything observed between two pops reports the current time, which is the latest so far -/
theorem TInv.ext {cfg : Config S} {w w' : World S σ} (e : Ext cfg w w') (h : TInv cfg w) :
    TInv cfg w' := by
  obtain ⟨l, hl, ht⟩ := e.trace_ext
  have hnew : ∀ t ∈ cbTimes l, t = reportedTime cfg w := by
    intro t hm
    obtain ⟨n, cb, hm⟩ := mem_cbTimes.mp hm
    exact ht n cb t hm
  have hrt := reportedTime_congr cfg e.now
  constructor
  · intro t hm
    rw [hl, cbTimes_append] at hm
    rw [hrt]
    rcases List.mem_append.mp hm with hm | hm
    · rw [hnew t hm]; exact Int.le_refl _
    · exact h.le_now t hm
  · rw [hl, cbTimes_append, List.pairwise_append]
    refine ⟨?_, h.mono, ?_⟩
    · refine List.pairwise_of_forall_mem_list fun a ha b hb => ?_
      rw [hnew a ha, hnew b hb]; exact Int.le_refl _
    · intro a ha b hb
      rw [hnew a ha]; exact h.le_now b hb

theorem TInv.popped {cfg : Config S} {w : World S σ} (h : TInv cfg w) {e : Ev (EvKind S)}
    (rest : List (Ev (EvKind S))) (hle : w.loop.now ≤ e.ts) : TInv cfg (popped e rest w) :=
  ⟨fun t hm => Int.le_trans (h.le_now t hm) (reportedTime_mono cfg ((popped_now e rest w).symm ▸ hle)), h.mono⟩

theorem init_tinv (cfg : Config S) (P : NodeId → Proto S σ) : TInv cfg (init cfg P) :=
  init_ind (by constructor <;> simp [init0, cbTimes]) (fun h => ⟨h.le_now, h.mono⟩)

theorem initWith_tinv (cfg : Config S) (P : NodeId → Proto S σ) (pre : List (NodeId × Prog S σ)) :
    TInv cfg (initWith cfg P pre) :=
  TInv.ext (ext_initWith cfg P pre) (init_tinv cfg P)

theorem reachableT_tinv {cfg : Config S} (hdt : 0 ≤ cfg.dt) {P : NodeId → Proto S σ} {w : World S σ}
    (h : ReachableT cfg P w) : TInv cfg w :=
  ((Ext.lifecycle cfg).keeps TInv.ext).reachableT_winv hdt (init_tinv cfg P)
    (fun _ e rest hw ht hq _ => (ht.popped rest (hw.ge_now e (hq ▸ List.mem_cons_self))).ext (ext_execEv cfg P e _)) h

theorem reachable_tinv {cfg : Config S} (hdt : 0 ≤ cfg.dt) {P : NodeId → Proto S σ} {w : World S σ}
    (h : Reachable cfg P w) : TInv cfg w := reachableT_tinv hdt h.toT

end Sim
