import GradysProofs.Lemmas.NonInterfRun
import GradysProofs.Lemmas.SimLife
/-
  C13 for COMPLETED runs under a duration bound and no iteration limit.  At completion both runs have
  executed the same number of events not owned by `x` (`visCount_eq_of_done`), hence have equal views
  just before finalisation (`completed_views`); then what finalisation adds to the projected trace
  (`FinBlocks`), and its congruence from equal views but DIFFERENT clocks (`FinEq`).
-/
set_option linter.unusedSectionVars false

namespace Sim
variable {S σ : Type} [Scalar S] (cfg : Config S) (P P₁ P₂ : NodeId → Proto S σ)

theorem isDone_cons_false_iff_noLimit (hm : cfg.maxIter = none) {w : World S σ} {e : Ev (EvKind S)}
    {rest : List (Ev (EvKind S))} (hq : w.loop.queue = e :: rest) :
    isDone cfg w = false ↔ ∀ D, cfg.duration = some D → e.ts ≤ D :=
  (isDone_cons_false_iff cfg hq).trans
    ⟨And.left, fun h => ⟨h, fun N hN => by rw [hm] at hN; cases hN⟩⟩

theorem done_queue_overdue (hm : cfg.maxIter = none) {w : World S σ} (hs : SortedTs w.loop.queue)
    (hd : isDone cfg w = true) {e : Ev (EvKind S)} (he : e ∈ w.loop.queue) :
    ¬ ∀ D, cfg.duration = some D → e.ts ≤ D := by
  intro hw
  cases hq : w.loop.queue with
  | nil => rw [hq] at he; cases he
  | cons h rest =>
    rw [hq] at he hs
    -- the head is due no later than `e`, so within the duration too: the run would go on
    have hh : h.ts ≤ e.ts := by
      rcases List.mem_cons.mp he with rfl | he
      · exact Int.le_refl _
      · exact (List.pairwise_cons.mp hs).1 e he
    rw [(isDone_cons_false_iff_noLimit cfg hm hq).mpr fun D hD => Int.le_trans hh (hw D hD)] at hd
    cases hd

section twin
variable {x : NodeId} {P₁ P₂ : NodeId → Proto S σ} (tw : Twin x P₁ P₂)
include tw

/-- KEY LEMMA: a run not done before its `k₁`-th event has by then executed no more visible events than
    a run that is done.  Otherwise the visible event by which it passes the count of the done run is
    queued in the done run too (equal views), where it is due after the duration: the live run would not
    execute it. -/
theorem visCount_le_of_done (hm : cfg.maxIter = none) (hdt : 0 ≤ cfg.dt) (k₁ k₂ : Nat)
    (hl₁ : Live cfg P₁ k₁) (hd₂ : isDone cfg (evSteps cfg P₂ k₂ (start0 cfg P₂)) = true) :
    visCount x (evSteps cfg P₁ k₁ (start0 cfg P₁)) ≤ visCount x (evSteps cfg P₂ k₂ (start0 cfg P₂)) := by
  apply Nat.le_of_not_lt
  intro hlt
  obtain ⟨j, hj, hc, e, rest, hq, he, _⟩ := visCount_passed cfg P₁ x tw.silent₁ _ k₁ _
    (start0_visCount cfg P₁ x ▸ Nat.zero_le _) hlt
  have hqv := (view_of_visCount_start0 cfg tw hdt j k₂ hc).queue
  rw [hq, qview_cons_other x e rest he] at hqv
  obtain ⟨e', he', _, hts⟩ := mem_qview.mp (hqv ▸ List.mem_cons_self)
  refine done_queue_overdue cfg hm (evSteps_inv cfg P₂ hdt k₂ (start0_inv cfg P₂ hdt)).sortedTs hd₂ he' ?_
  rw [(Prod.mk.inj hts).1]
  exact (isDone_cons_false_iff_noLimit cfg hm hq).mp (hl₁ j hj)

theorem visCount_eq_of_done (hm : cfg.maxIter = none) (hdt : 0 ≤ cfg.dt) (k₁ k₂ : Nat)
    (hl₁ : Live cfg P₁ k₁) (hd₁ : isDone cfg (evSteps cfg P₁ k₁ (start0 cfg P₁)) = true)
    (hl₂ : Live cfg P₂ k₂) (hd₂ : isDone cfg (evSteps cfg P₂ k₂ (start0 cfg P₂)) = true) :
    visCount x (evSteps cfg P₁ k₁ (start0 cfg P₁)) = visCount x (evSteps cfg P₂ k₂ (start0 cfg P₂)) :=
  Nat.le_antisymm (visCount_le_of_done cfg tw hm hdt k₁ k₂ hl₁ hd₂)
    (visCount_le_of_done cfg tw.symm hm hdt k₂ k₁ hl₂ hd₁)

theorem completed_views (hm : cfg.maxIter = none) (hdt : 0 ≤ cfg.dt) (n₁ n₂ : Nat)
    (hf₁ : (steps cfg P₁ n₁ (init cfg P₁)).finalized = true)
    (hf₂ : (steps cfg P₂ n₂ (init cfg P₂)).finalized = true) :
    ∃ k₁ k₂, steps cfg P₁ n₁ (init cfg P₁) = finalise cfg P₁ (evSteps cfg P₁ k₁ (start0 cfg P₁)) ∧
      steps cfg P₂ n₂ (init cfg P₂) = finalise cfg P₂ (evSteps cfg P₂ k₂ (start0 cfg P₂)) ∧
      ViewEq x (evSteps cfg P₁ k₁ (start0 cfg P₁)) (evSteps cfg P₂ k₂ (start0 cfg P₂)) := by
  obtain ⟨k₁, hl₁, hd₁, e₁⟩ := completed_run cfg P₁ n₁ hf₁
  obtain ⟨k₂, hl₂, hd₂, e₂⟩ := completed_run cfg P₂ n₂ hf₂
  exact ⟨k₁, k₂, e₁, e₂, view_of_visCount_start0 cfg tw hdt k₁ k₂
    (visCount_eq_of_done cfg tw hm hdt k₁ k₂ hl₁ hd₁ hl₂ hd₂)⟩

end twin

def _root_.Obs.isFinish : Obs S → Bool
  | .callback _ .finish _ => true
  | _ => false

theorem isLife_of_isFinish {o : Obs S} (h : o.isFinish = true) : isLife o = true := by
  unfold Obs.isFinish at h
  split at h
  · rfl
  · cases h

theorem evSteps_linv (k : Nat) : LInv cfg (evSteps cfg P k (start0 cfg P)) :=
  (evSteps_induction (I := fun w => LInv cfg w ∧ w.initialized = true ∧ w.finalized = false)
    ⟨initialise_shape cfg P _ (init_linv cfg P) (init_flags cfg P).1, start0_flags cfg P⟩
    (fun w e rest h _ =>
      have f := execStep_flags cfg P e rest w
      ⟨execStep_shape cfg P e rest w h.1 h.2.1 h.2.2, f.initialized.trans h.2.1, f.finalized.trans h.2.2⟩)
    k).1

/-- before finalisation the trace contains no `finish` callback: the lifecycle observations are those
    of initialisation and the after-step hooks (`LInv.shape`) -/
theorem evSteps_noFinish (x : NodeId) (k : Nat) :
    ∀ o ∈ ptrace x (evSteps cfg P k (start0 cfg P)), o.isFinish = false := by
  intro o ho
  have ho := (List.mem_filter.mp (List.mem_reverse.mp ho)).1
  cases hfo : o.isFinish with
  | false => rfl
  | true =>
    have hfl := evSteps_flags cfg P k
    have hmem := List.mem_filter.mpr ⟨ho, isLife_of_isFinish hfo⟩
    rw [(evSteps_linv cfg P k).shape hfl.1, hfl.2] at hmem
    rcases List.mem_append.mp hmem with hm | hm
    · obtain ⟨hn, i, t, rfl⟩ := mem_afterBlocksR cfg _ hm
      cases hfo
    · rcases List.mem_append.mp (List.mem_reverse.mp hm) with hm | hm
      · obtain ⟨hn, _, rfl⟩ := List.mem_map.mp hm
        cases hfo
      · obtain ⟨n, _, rfl⟩ := List.mem_map.mp hm
        cases hfo

/-- What the `finish` callbacks of the nodes `ns`, run in this order, add to the trace projected on
    the nodes other than `x` (oldest first): for each `n ≠ x` its `finish` callback with SOME reported
    time, followed by requests of `n` only; nothing for `x`. -/
inductive FinBlocks (x : NodeId) : List NodeId → List (Obs S) → Prop
  | nil : FinBlocks x [] []
  | skip {ns : List NodeId} {F : List (Obs S)} : FinBlocks x ns F → FinBlocks x (x :: ns) F
  | cons {n : NodeId} {ns : List NodeId} {t : Int} {l F : List (Obs S)} : n ≠ x →
      (∀ o ∈ l, Obs.isRequestOf n o) → FinBlocks x ns F →
      FinBlocks x (n :: ns) (Obs.callback n .finish t :: (l ++ F))

theorem ptrace_callback (x n : NodeId) (cb : Callback S) (w : World S σ) :
    ∃ l, ptrace x (callback cfg P n cb w) =
        ptrace x w ++ (if n = x then [] else Obs.callback n cb (reportedTime cfg w) :: l) ∧
      ∀ o ∈ l, Obs.isRequestOf n o := by
  obtain ⟨l, hl, hq⟩ := callback_rtrace cfg P n cb w
  refine ⟨l.reverse, ?_, fun o ho => hq o (List.mem_reverse.mp ho)⟩
  have hf : l.filter (Obs.vis x) = l.filter (fun _ => n != x) :=
    List.filter_congr fun o ho => by
      obtain ⟨_, _, rfl⟩ := (hq o ho).eq
      rfl
  unfold ptrace
  rw [hl, List.filter_append, hf, List.filter_cons]
  by_cases hn : n = x <;> simp [hn, Obs.vis]

theorem ptrace_callbackAll_finish (x : NodeId) (ns : List NodeId) (w : World S σ) :
    ∃ F, ptrace x (callbackAll cfg P .finish ns w) = ptrace x w ++ F ∧ FinBlocks x ns F := by
  induction ns generalizing w with
  | nil => exact ⟨[], (List.append_nil _).symm, .nil⟩
  | cons n ns ih =>
    obtain ⟨F, hF, hB⟩ := ih (callback cfg P n .finish w)
    obtain ⟨l, hl, hq⟩ := ptrace_callback cfg P x n .finish w
    rw [callbackAll_cons, hF, hl, List.append_assoc]
    by_cases hn : n = x
    · subst hn
      exact ⟨F, by rw [if_pos rfl]; rfl, hB.skip⟩
    · exact ⟨_, by rw [if_neg hn]; rfl, .cons hn hq hB⟩

theorem ptrace_finalise (x : NodeId) (w : World S σ) (hf : w.finalized = false) :
    ∃ F, ptrace x (finalise cfg P w) = ptrace x w ++ F ∧ FinBlocks x (List.range cfg.nNodes) F := by
  obtain ⟨F, hF, hB⟩ := ptrace_callbackAll_finish cfg P x (List.range cfg.nNodes) w
  refine ⟨F, ?_, hB⟩
  rw [finalise_eq cfg P w hf, ← hF]
  exact (hid_handlerFinal cfg x _).view.ptrace_eq.symm

/-- the part of a trace before the first `finish` callback -/
def beforeFinish (tr : List (Obs S)) : List (Obs S) := tr.takeWhile (fun o => !o.isFinish)

/-- the nodes whose `finish` callback occurs in the trace, in order of occurrence -/
def finishNodes (tr : List (Obs S)) : List NodeId :=
  tr.filterMap (fun o => match o with
    | .callback n .finish _ => some n
    | _ => none)

theorem finishNodes_append (A B : List (Obs S)) :
    finishNodes (A ++ B) = finishNodes A ++ finishNodes B :=
  List.filterMap_append

theorem finishNodes_nil_of_noFinish {tr : List (Obs S)} (h : ∀ o ∈ tr, o.isFinish = false) :
    finishNodes tr = [] := by
  unfold finishNodes
  rw [List.filterMap_eq_nil_iff]
  intro o ho
  split
  · cases h _ ho
  · rfl

theorem FinBlocks.finishNodes_eq {x : NodeId} {ns : List NodeId} {F : List (Obs S)}
    (h : FinBlocks x ns F) : finishNodes F = ns.filter (fun n => n != x) := by
  induction h with
  | nil => rfl
  | skip _ ih => rw [ih, List.filter_cons_of_neg (by simp)]
  | @cons n ns t l F hn hq _ ih =>
    rw [List.filter_cons_of_pos (by simpa using hn), ← ih]
    show n :: finishNodes (l ++ F) = _
    rw [finishNodes_append, finishNodes_nil_of_noFinish fun o ho => by
      obtain ⟨_, _, rfl⟩ := (hq o ho).eq
      rfl]
    rfl

theorem FinBlocks.head {x : NodeId} {ns : List NodeId} {F : List (Obs S)} (h : FinBlocks x ns F) :
    F = [] ∨ ∃ o F', F = o :: F' ∧ o.isFinish = true := by
  induction h with
  | nil => exact Or.inl rfl
  | skip _ ih => exact ih
  | cons _ _ _ _ => exact Or.inr ⟨_, _, rfl, rfl⟩

theorem finBlocks_split {x : NodeId} {ns : List NodeId} {A F : List (Obs S)}
    (hA : ∀ o ∈ A, o.isFinish = false) (h : FinBlocks x ns F) :
    beforeFinish (A ++ F) = A ∧ finishNodes (A ++ F) = ns.filter (fun n => n != x) := by
  constructor
  · unfold beforeFinish
    rw [List.takeWhile_append_of_pos (by intro o ho; simp [hA o ho])]
    rcases h.head with rfl | ⟨o, F', rfl, ho⟩
    · simp
    · simp [ho]
  · rw [finishNodes_append, finishNodes_nil_of_noFinish hA, h.finishNodes_eq]
    rfl

/-! ### finalisation from equal views but DIFFERENT clocks

  At completion the two runs have equal views but, in general, different clocks (`now` is the time of
  the last executed event of ANY node: finding F13).  `finish` of a node `n ≠ x` can observe the clock
  in two ways: through the time argument of the callback (`current_time()`), and through the outcome
  of `schedule_timer` (refused iff the time is in the past).  `FinishClockFree` excludes both; under
  it finalisation is congruent up to the reported time of the `finish` callbacks (`FinEq`). -/

/-- the reported time of a `finish` callback erased -/
def _root_.Obs.eraseFinishTime : Obs S → Obs S
  | .callback n .finish _ => .callback n .finish 0
  | o => o

/-- node `n`'s reaction to `finish` does not depend on the time it is given and does not probe the
    clock through `schedule_timer` -/
def FinishClockFree (P : NodeId → Proto S σ) (n : NodeId) : Prop :=
  ∀ (s : σ) (t t' : Int),
    (P n).react s n t .finish = (P n).react s n t' .finish ∧ ((P n).react s n t .finish).noSetTimer

/-- the view of the nodes other than `x` without the queue (delivery times of messages sent inside
    `finish` follow the clock) and with the `finish` times erased from the trace -/
structure FinEq (x : NodeId) (w₁ w₂ : World S σ) : Prop where
  pending : w₁.pending.filter (fun p => p.1 != x) = w₂.pending.filter (fun p => p.1 != x)
  nextTimer : ∀ n, n ≠ x → w₁.nextTimer n = w₂.nextTimer n
  range : ∀ n, n ≠ x → w₁.range n = w₂.range n
  pos : ∀ n, n ≠ x → w₁.pos n = w₂.pos n
  target : ∀ n, n ≠ x → w₁.target n = w₂.target n
  speed : ∀ n, n ≠ x → w₁.speed n = w₂.speed n
  pstate : ∀ n, n ≠ x → w₁.pstate n = w₂.pstate n
  drawIdx : w₁.drawIdx = w₂.drawIdx
  etrace : (w₁.rtrace.filter (Obs.vis x)).map Obs.eraseFinishTime =
    (w₂.rtrace.filter (Obs.vis x)).map Obs.eraseFinishTime

theorem ViewEq.finEq {x : NodeId} {a b : World S σ} (h : ViewEq x a b) : FinEq x a b :=
  ⟨h.pending, h.nextTimer, h.range, h.pos, h.target, h.speed, h.pstate, h.drawIdx, by rw [h.trace]⟩

theorem FinEq.trans {x : NodeId} {a b c : World S σ} (h1 : FinEq x a b) (h2 : FinEq x b c) :
    FinEq x a c :=
  ⟨h1.pending.trans h2.pending,
   fun n hn => (h1.nextTimer n hn).trans (h2.nextTimer n hn),
   fun n hn => (h1.range n hn).trans (h2.range n hn),
   fun n hn => (h1.pos n hn).trans (h2.pos n hn),
   fun n hn => (h1.target n hn).trans (h2.target n hn),
   fun n hn => (h1.speed n hn).trans (h2.speed n hn),
   fun n hn => (h1.pstate n hn).trans (h2.pstate n hn),
   h1.drawIdx.trans h2.drawIdx, h1.etrace.trans h2.etrace⟩

theorem FinEq.of_viewEq {x : NodeId} {a b a' b' : World S σ} (h : FinEq x a b) (ha : ViewEq x a a')
    (hb : ViewEq x b b') : FinEq x a' b' :=
  (ha.symm.finEq.trans h).trans hb.finEq

theorem FinEq.ptrace_eq {x : NodeId} {a b : World S σ} (h : FinEq x a b) :
    (ptrace x a).map Obs.eraseFinishTime = (ptrace x b).map Obs.eraseFinishTime := by
  unfold ptrace
  rw [List.map_reverse, List.map_reverse, h.etrace]

theorem finEq_log {x : NodeId} {w₁ w₂ : World S σ} (o₁ o₂ : Obs S)
    (hv : Obs.vis x o₁ = Obs.vis x o₂) (he : o₁.eraseFinishTime = o₂.eraseFinishTime)
    (h : FinEq x w₁ w₂) : FinEq x (log o₁ w₁) (log o₂ w₂) := by
  refine { h with etrace := ?_ }
  show ((o₁ :: w₁.rtrace).filter _).map _ = ((o₂ :: w₂.rtrace).filter _).map _
  rw [List.filter_cons, List.filter_cons, hv]
  split
  · rw [List.map_cons, List.map_cons, he, h.etrace]
  · exact h.etrace

theorem eraseFinishTime_request (n : NodeId) (r : Request S) (ok : Bool) :
    (Obs.request n r ok : Obs S).eraseFinishTime = Obs.request n r ok := rfl

/-- a transmission touches the queue and the draw index only, the latter independently of the clock, the
    positions and the sender -/
theorem FinEq.sync {x n : NodeId} (hn : n ≠ x) :
    Sync (σ := σ) cfg n (FinEq x) where
  arm := @fun w₁ w₂ name at_ h => by
    unfold arm
    rw [h.nextTimer n hn]
    exact { h with
      pending := filter_cons_congr _ h.pending
      nextTimer := upd_congr_off h.nextTimer n _ }
  disarm name h := { h with pending := filter_filter_congr _ h.pending }
  transmit dst msg h := by
    rw [transmit_eq, transmit_eq]
    split <;> split <;> exact { h with drawIdx := congrArg (· + drawCost cfg) h.drawIdx }
  target t h := { h with target := upd_congr_off h.target n t }
  speed v h := { h with speed := upd_congr_off h.speed n v }
  range r h := { h with range := upd_congr_off h.range n r }
  log _ _ h := finEq_log _ _ rfl rfl h
  ret s h := { h with pstate := upd_congr_off h.pstate n s }

section twin
variable {x : NodeId} {P₁ P₂ : NodeId → Proto S σ} (tw : Twin x P₁ P₂)
include tw

theorem finEq_callbackAll_finish (hc : ∀ n, n ≠ x → FinishClockFree P₂ n) (ns : List NodeId)
    {w₁ w₂ : World S σ} (h : FinEq x w₁ w₂) :
    FinEq x (callbackAll cfg P₁ .finish ns w₁) (callbackAll cfg P₂ .finish ns w₂) := by
  refine rel_foldl₂ (fun n w₁ w₂ h => ?_) ns h
  by_cases hn : n = x
  · subst hn
    exact h.of_viewEq (hid_callback cfg P₁ n tw.silent₁ .finish w₁).view
      (hid_callback cfg P₂ n tw.silent₂ .finish w₂).view
  · have hf := hc n hn (w₂.pstate n)
    exact (FinEq.sync cfg hn).callback .finish
      (by rw [tw.agree n hn, h.pstate n hn]; exact (hf _ _).1) (Or.inl (hf _ 0).2)
      (finEq_log _ _ rfl rfl h)

theorem finEq_finalise (hc : ∀ n, n ≠ x → FinishClockFree P₂ n) {w₁ w₂ : World S σ}
    (hf₁ : w₁.finalized = false) (hf₂ : w₂.finalized = false) (h : ViewEq x w₁ w₂) :
    FinEq x (finalise cfg P₁ w₁) (finalise cfg P₂ w₂) := by
  rw [finalise_eq cfg P₁ w₁ hf₁, finalise_eq cfg P₂ w₂ hf₂]
  exact (finEq_callbackAll_finish cfg tw hc _ h.finEq).of_viewEq (hid_handlerFinal cfg x _).view
    (hid_handlerFinal cfg x _).view

end twin

end Sim
