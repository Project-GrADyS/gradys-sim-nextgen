import GradysProofs.Lemmas.MissionStep
namespace Mission
variable {S : Type}

/-- the part of the invariant that does not mention the command log -/
structure Pre (cfg : Config S) (s : State S) : Prop where
  /-- a mission is active: the waypoint is a valid index and the plugin is not idle -/
  active : ∀ m, s.mission = some m → ∃ w, s.wp = some w ∧ 0 ≤ w ∧ w < (m.length : Int) ∧ s.idle = false
  /-- no mission: no waypoint, idle, not reversed -/
  inactive : s.mission = none → s.wp = none ∧ s.idle = true ∧ s.reversed = false
  /-- the reversed flag is only ever set in REVERSE mode -/
  mode : cfg.loop ≠ .reverse → s.reversed = false

/-- the invariant of the mission plugin (not `Sim.MInv`, the mobility invariant of C12): `Pre` + while
    a mission is active the last goto issued went to `mission[wp]` -/
structure MInv (cfg : Config S) (s : State S) : Prop where
  pre : Pre cfg s
  goto : ∀ m w, s.mission = some m → s.wp = some w → lastGoto s.log = pyGet m w

variable {cfg : Config S} {s : State S} {m : List (V3 S)} {i : Nat}

/-- the two shapes of a state that satisfies the invariant: stopped, or flying a mission towards one of
    its waypoints, a natural number.  Every proof below enters and leaves the invariant through this. -/
theorem minv_iff : MInv cfg s ↔
    (cfg.loop ≠ .reverse → s.reversed = false) ∧
    ((s.mission = none ∧ s.wp = none ∧ s.idle = true ∧ s.reversed = false) ∨
     ∃ (m : List (V3 S)) (i : Nat), s.mission = some m ∧ s.wp = some (i : Int) ∧ i < m.length ∧
       s.idle = false ∧ lastGoto s.log = m[i]?) := by
  constructor
  · intro h
    refine ⟨h.pre.mode, ?_⟩
    cases hm : s.mission with
    | none => exact Or.inl ⟨rfl, h.pre.inactive hm⟩
    | some m =>
      obtain ⟨w, hw, h0, h1, hidle⟩ := h.pre.active m hm
      obtain ⟨i, rfl⟩ := Int.eq_ofNat_of_zero_le h0
      exact Or.inr ⟨m, i, rfl, hw, Int.ofNat_lt.mp h1, hidle, by rw [h.goto m i hm hw, pyGet_natCast]⟩
  · rintro ⟨hmode, ⟨hm, hw, hidle, hr⟩ | ⟨m, i, hm, hw, hi, hidle, hg⟩⟩
    · exact ⟨⟨by simp [hm], fun _ => ⟨hw, hidle, hr⟩, hmode⟩, by simp [hm]⟩
    · refine ⟨⟨fun m' h' => ?_, by simp [hm], hmode⟩, fun m' w' hm' hw' => ?_⟩
      · cases hm.symm.trans h'
        exact ⟨i, hw, Int.natCast_nonneg i, Int.ofNat_lt.mpr hi, hidle⟩
      · cases hm.symm.trans hm'
        cases hw.symm.trans hw'
        rw [hg, pyGet_natCast]

theorem MInv.flying (h : MInv cfg s) (hm : s.mission = some m) :
    ∃ i : Nat, s.wp = some (i : Int) ∧ i < m.length ∧ s.idle = false ∧ lastGoto s.log = m[i]? := by
  obtain ⟨-, ⟨hn, -⟩ | ⟨m', i, hm', h'⟩⟩ := minv_iff.mp h
  · cases hn.symm.trans hm
  · cases hm'.symm.trans hm
    exact ⟨i, h'⟩

theorem stop_inv (cfg : Config S) (s : State S) : MInv cfg (stopMission s) :=
  minv_iff.mpr ⟨fun _ => rfl, Or.inl ⟨rfl, rfl, rfl, rfl⟩⟩

theorem init_inv (cfg : Config S) : MInv cfg (init : State S) := stop_inv cfg init

/-- how every operation that moves the target re-establishes the invariant: the mission stays, the new
    index is valid, and the goto to it is the command just issued -/
theorem minv_goto {j : Nat} {p : V3 S} {r : Bool} (hm : s.mission = some m) (hidle : s.idle = false)
    (hp : m[j]? = some p) (hmode : cfg.loop ≠ .reverse → r = false) :
    MInv cfg { s with wp := some (j : Int), reversed := r, log := .goto p :: s.log } :=
  minv_iff.mpr ⟨hmode, Or.inr ⟨m, j, hm, rfl, (List.getElem?_eq_some_iff.mp hp).1, hidle, hp.symm⟩⟩

theorem start_inv (cfg : Config S) (s : State S) (hm : m ≠ []) :
    MInv cfg (start cfg s m).1 ∧ (start cfg s m).2 ≠ .crash := by
  obtain ⟨p, hp, e⟩ := start_eq cfg s hm
  rw [e]
  exact ⟨minv_iff.mpr ⟨fun _ => rfl,
    Or.inr ⟨m, 0, rfl, rfl, (List.getElem?_eq_some_iff.mp hp).1, rfl, hp.symm⟩⟩, nofun⟩

theorem setWaypoint_inv (h : MInv cfg s) (i : Int) :
    MInv cfg (setWaypoint s i).1 ∧ (setWaypoint s i).2 ≠ .crash := by
  obtain ⟨hmode, ⟨hm, -⟩ | ⟨m, _, hm, -, -, hidle, -⟩⟩ := minv_iff.mp h
  · rw [setWaypoint_none hm]; exact ⟨h, nofun⟩
  · by_cases hb : i < 0 ∨ (m.length : Int) ≤ i
    · rw [setWaypoint_some hm, if_pos hb]; exact ⟨h, nofun⟩
    · obtain ⟨k, rfl⟩ := Int.eq_ofNat_of_zero_le (by omega : 0 ≤ i)
      obtain ⟨p, hp, e⟩ := setWaypoint_eq hm (by omega : k < m.length)
      rw [e]
      exact ⟨minv_goto hm hidle hp hmode, nofun⟩

/-- a waypoint step from an active state; the reversed flag of the incoming state is arbitrary in
    REVERSE mode (this is what `set_reversed` relies on) -/
theorem advance_inv (hm : s.mission = some m) (hw : s.wp = some (i : Int)) (hi : i < m.length)
    (hidle : s.idle = false) (hmode : cfg.loop ≠ .reverse → s.reversed = false) :
    MInv cfg (outOf (travel (progress cfg s))).1 ∧ (outOf (travel (progress cfg s))).2 ≠ .crash := by
  obtain ⟨hstop, hgo⟩ := advance_eq hm hw hi hmode
  cases hn : next cfg.loop m.length i s.reversed with
  | none => rw [hstop hn]; exact ⟨stop_inv cfg s, nofun⟩
  | some x =>
    obtain ⟨p, hp, e⟩ := hgo x.1 x.2 hn
    rw [e]
    exact ⟨minv_goto hm hidle hp (next_spec hn hi).2, nofun⟩

theorem setReversed_inv (h : MInv cfg s) (b : Bool) :
    MInv cfg (setReversed cfg s b).1 ∧ (setReversed cfg s b).2 ≠ .crash := by
  obtain ⟨-, ⟨hm, -⟩ | ⟨m, i, hm, hw, hi, hidle, -⟩⟩ := minv_iff.mp h
  · rw [setReversed_none hm]; exact ⟨h, nofun⟩
  · rw [setReversed_some hm]
    split
    · exact ⟨h, nofun⟩
    · rename_i hl
      split
      · rename_i hb; subst hb; exact ⟨h, nofun⟩
      · exact advance_inv (s := { s with reversed := b }) hm hw hi hidle fun hne => absurd hne hl

theorem telemetryB_inv (h : MInv cfg s) (r : Bool) :
    MInv cfg (telemetryB cfg s r).1 ∧ (telemetryB cfg s r).2 ≠ .crash := by
  obtain ⟨hmode, ⟨hm, -⟩ | ⟨m, i, hm, hw, hi, hidle, -⟩⟩ := minv_iff.mp h
  · rw [telemetryB_none hm]; exact ⟨h, nofun⟩
  · cases r with
    | false => rw [telemetryB_false]; exact ⟨h, nofun⟩
    | true => rw [telemetryB_true hm]; exact advance_inv hm hw hi hidle hmode

section
variable [Scalar S]

theorem apply_inv (h : MInv cfg s) (op : Op S) (hv : op.valid) :
    MInv cfg (apply cfg s op).1 ∧ (apply cfg s op).2 ≠ .crash := by
  cases op with
  | start m => exact start_inv cfg s hv
  | stop => exact ⟨stop_inv cfg s, nofun⟩
  | setWaypoint i => exact setWaypoint_inv h i
  | setReversed b => exact setReversed_inv h b
  | telemetry pos => exact telemetryB_inv h (reached cfg s pos)

theorem run_inv (h : MInv cfg s) (ops : List (Op S))
    (hv : ∀ op ∈ ops, op.valid) : MInv cfg (run cfg s ops) :=
  List.foldlRecOn ops _ h fun _ hu op hop => (apply_inv hu op (hv op hop)).1

theorem run_append (cfg : Config S) (s : State S) (a b : List (Op S)) :
    run cfg s (a ++ b) = run cfg (run cfg s a) b := by
  simp [run, List.foldl_append]

end
end Mission
