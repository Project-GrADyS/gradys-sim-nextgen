import GradysModel.Queue
/-
  The event queue: the order `keyLt` on (timestamp, sequence), what stable insertion does to membership,
  length and sortedness (FIFO among equal timestamps comes from `insertEv_sorted`), the equations of the
  EventLoop's `schedule` and `pop`, and sortedness by time alone (`SortedTs`).
-/
/-- strict lexicographic order on (timestamp, sequence): the repaired `Event.__lt__` -/
def keyLt {K : Type} (a b : Ev K) : Prop := a.ts < b.ts ∨ (a.ts = b.ts ∧ a.seq < b.seq)

theorem keyLt_ts_le {K : Type} {a b : Ev K} (h : keyLt a b) : a.ts ≤ b.ts :=
  h.elim Int.le_of_lt fun h => Int.le_of_eq h.1

theorem keyLt_of_ts_le_of_seq_lt {K : Type} {a b : Ev K} (hts : a.ts ≤ b.ts) (hseq : a.seq < b.seq) :
    keyLt a b :=
  (Int.lt_or_eq_of_le hts).imp_right fun h => ⟨h, hseq⟩

theorem keyLt_trans {K : Type} {a b c : Ev K} (h1 : keyLt a b) (h2 : keyLt b c) : keyLt a c := by
  unfold keyLt at *
  omega

theorem keyLt_irrefl {K : Type} (a : Ev K) : ¬ keyLt a a := by
  unfold keyLt; omega

theorem keyLt_asymm {K : Type} {a b : Ev K} (h : keyLt a b) : ¬ keyLt b a :=
  fun h' => keyLt_irrefl a (keyLt_trans h h')

theorem keyLt_total {K : Type} (a b : Ev K) (h : a.seq ≠ b.seq) : keyLt a b ∨ keyLt b a := by
  unfold keyLt; omega

theorem insertEv_perm {K : Type} (e : Ev K) (q : List (Ev K)) : (insertEv e q).Perm (e :: q) := by
  induction q with
  | nil => simp [insertEv]
  | cons y ys ih =>
    unfold insertEv
    split
    · exact (List.Perm.cons y ih).trans (List.Perm.swap e y ys)
    · exact List.Perm.refl _

theorem mem_insertEv {K : Type} {e x : Ev K} {q : List (Ev K)} :
    x ∈ insertEv e q ↔ x = e ∨ x ∈ q :=
  (insertEv_perm e q).mem_iff.trans List.mem_cons

theorem forall_mem_insertEv {K : Type} {e : Ev K} {q : List (Ev K)} {p : Ev K → Prop} :
    (∀ x ∈ insertEv e q, p x) ↔ p e ∧ ∀ x ∈ q, p x := by
  simp only [mem_insertEv, or_imp, forall_and, forall_eq]

theorem insertEv_length {K : Type} (e : Ev K) (q : List (Ev K)) :
    (insertEv e q).length = q.length + 1 := by
  simpa using (insertEv_perm e q).length_eq

theorem insertEv_sorted {K : Type} (e : Ev K) (q : List (Ev K))
    (hs : q.Pairwise keyLt) (hseq : ∀ x ∈ q, x.seq < e.seq) : (insertEv e q).Pairwise keyLt := by
  induction q with
  | nil => simp [insertEv]
  | cons x xs ih =>
    obtain ⟨hx, hxs⟩ := List.pairwise_cons.mp hs
    obtain ⟨hxe, hseq'⟩ := List.forall_mem_cons.mp hseq
    unfold insertEv
    split
    · rename_i hle
      exact List.pairwise_cons.mpr
        ⟨forall_mem_insertEv.mpr ⟨keyLt_of_ts_le_of_seq_lt hle hxe, hx⟩, ih hxs hseq'⟩
    · rename_i hnle
      have hex : keyLt e x := Or.inl (Int.not_le.mp hnle)
      exact List.pairwise_cons.mpr
        ⟨List.forall_mem_cons.mpr ⟨hex, fun y hy => keyLt_trans hex (hx y hy)⟩, hs⟩

theorem sorted_head_least {K : Type} {e : Ev K} {rest : List (Ev K)}
    (hs : (e :: rest).Pairwise keyLt) : ∀ x ∈ rest, keyLt e x :=
  (List.pairwise_cons.mp hs).1

namespace EL
variable {K : Type}

theorem apply_schedule (l : EL K) (ts : Int) (k : K) :
    l.apply (.schedule ts k) = if ts < l.now then (l, .err .past) else (l.push ts k, .ok) := by
  by_cases h : ts < l.now <;> simp only [apply, schedule, push, h, ↓reduceIte]

theorem apply_pop (l : EL K) : l.apply .pop =
    match l.queue with
    | [] => (l, .err .empty)
    | e :: rest => ({ l with queue := rest, now := e.ts }, .ev (some e)) := by
  simp only [apply, pop]
  cases l.queue <;> rfl

theorem queue_of_pop {l l' : EL K} {e : Ev K} (h : l.pop = .ok (e, l')) : l.queue = e :: l'.queue := by
  unfold pop at h
  split at h
  · cases h
  · rename_i hq
    cases h
    exact hq

end EL

/-- sorted by time alone: what stable insertion keeps with no hypothesis on the new event -/
def SortedTs {K : Type} (q : List (Ev K)) : Prop := q.Pairwise (fun a b => a.ts ≤ b.ts)

theorem SortedTs.tail {K : Type} {e : Ev K} {q : List (Ev K)} (h : SortedTs (e :: q)) :
    SortedTs q :=
  (List.pairwise_cons.mp h).2

theorem filter_insertEv_neg {K : Type} (p : Ev K → Bool) (e : Ev K) (q : List (Ev K))
    (hp : p e = false) : (insertEv e q).filter p = q.filter p := by
  induction q with
  | nil => simp [insertEv, hp]
  | cons x xs ih =>
    unfold insertEv
    split
    · simp only [List.filter_cons, ih]
    · rw [List.filter_cons, hp]; rfl

theorem insertEv_eq_filter {K : Type} (e : Ev K) (q : List (Ev K)) (hs : SortedTs q) :
    insertEv e q = q.filter (fun y => y.ts ≤ e.ts) ++ e :: q.filter (fun y => ¬ y.ts ≤ e.ts) := by
  induction q with
  | nil => rfl
  | cons y ys ih =>
    have hy := List.pairwise_cons.mp hs
    unfold insertEv
    split
    · rename_i hle
      simp [ih hy.2, hle]
    · rename_i hgt
      have late : ∀ z ∈ y :: ys, ¬ z.ts ≤ e.ts := by
        intro z hz
        rcases List.mem_cons.mp hz with rfl | hz
        · exact hgt
        · have := hy.1 z hz
          omega
      rw [List.filter_eq_nil_iff.mpr fun z hz h => late z hz (of_decide_eq_true h),
        List.filter_eq_self.mpr fun z hz => decide_eq_true (late z hz)]
      rfl

theorem insertEv_sortedTs {K : Type} (e : Ev K) (q : List (Ev K)) (h : SortedTs q) :
    SortedTs (insertEv e q) := by
  rw [insertEv_eq_filter e q h]
  refine List.pairwise_append.mpr ⟨h.filter _, List.pairwise_cons.mpr ⟨fun b hb => ?_, h.filter _⟩,
    fun a ha b hb => ?_⟩
  · have := of_decide_eq_true (List.mem_filter.mp hb).2
    omega
  · have ha := of_decide_eq_true (List.mem_filter.mp ha).2
    rcases List.mem_cons.mp hb with rfl | hb
    · exact ha
    · have := of_decide_eq_true (List.mem_filter.mp hb).2
      omega
