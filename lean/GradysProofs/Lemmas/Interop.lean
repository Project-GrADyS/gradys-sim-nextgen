import GradysModel.Interop
/-
  Lemmas about GradysModel/Interop.lean.  Programs: a run is a path through its environment
  (`run_induction`), so each provider is known by what ONE call does to it (`iHandle_eq`, `pHandle_fst`).
  One callback: what an interop callback returns and leaves is an equation (`icallback_eq`).  What holds of
  callback sequences, of one instance among several and of protocols with handlers plugged in front of
  their callbacks follows from these by induction over the sequence or the chain; `Ext` holds the three
  facts about the simulator-only extension objects.
-/
-- the general lemmas about programs carry the `[Scalar S]` of the file-wide `variable` line unused
set_option linter.unusedSectionVars false

namespace Interop
variable {S σ : Type} [Scalar S]

/-- no `raise` node anywhere in the tree: the callback returns normally whatever is refused -/
inductive NeverRaises : XProg S σ → Prop
  | done (s : σ) : NeverRaises (.done s)
  | act (a : Act S) (k : Bool → XProg S σ) (h : ∀ b, NeverRaises (k b)) : NeverRaises (.act a k)

theorem neverRaises_ofProg (p : Prog S σ) : NeverRaises (XProg.ofProg p) := by
  induction p with
  | done s => exact .done s
  | req r k ih => exact .act _ _ ih

theorem neverRaises_ofList (s : σ) (as : List (Act S)) : NeverRaises (XProg.ofList s as) := by
  induction as with
  | nil => exact .done s
  | cons a as ih => exact .act _ _ (fun _ => ih)

theorem run_induction {ε : Type} (h : ε → Act S → ε × Bool) (R : ε → List (Act S × Bool) → ε → Prop)
    (nil : ∀ e, R e [] e) (cons : ∀ e a tr e', R (h e a).1 tr e' → R e ((a, (h e a).2) :: tr) e')
    (p : XProg S σ) (e : ε) : R e (p.run h e).transcript (p.run h e).env := by
  induction p generalizing e with
  | done s | raise s => exact nil e
  | act a k ih => exact cons e a _ _ (ih _ _)

theorem run_returns {ε : Type} (h : ε → Act S → ε × Bool) (p : XProg S σ) (hp : NeverRaises p) (e : ε) :
    (p.run h e).out.isReturned = true := by
  induction hp generalizing e with
  | done s => rfl
  | act a k _ ih => exact ih _ _

theorem run_bind {α β ε : Type} (h : ε → Act S → ε × Bool) (p : XProg S α) (f : α → XProg S β) (g : α → β) (e : ε) :
    (XProg.bind p f g).run h e =
      match (p.run h e).out with
      | .returned a => ⟨((f a).run h (p.run h e).env).env, ((f a).run h (p.run h e).env).out,
                        (p.run h e).transcript ++ ((f a).run h (p.run h e).env).transcript⟩
      | .raised a => ⟨(p.run h e).env, .raised (g a), (p.run h e).transcript⟩ := by
  induction p generalizing e with
  | done a | raise a => rfl
  | act x k ih =>
    simp only [XProg.bind, XProg.run, ih]
    cases ((k (h e x).2).run h (h e x).1).out <;> rfl

theorem run_ofList {ε : Type} (h : ε → Act S → ε × Bool) (s : σ) (as : List (Act S)) (e : ε) :
    ((XProg.ofList s as).run h e).transcript.map Prod.fst = as ∧
    ((XProg.ofList s as).run h e).out = .returned s := by
  induction as generalizing e with
  | nil => exact ⟨rfl, rfl⟩
  | cons a as ih => exact ⟨congrArg (a :: ·) (ih _).1, (ih _).2⟩

theorem run_lockstep {ε₁ ε₂ : Type} (h₁ : ε₁ → Act S → ε₁ × Bool) (h₂ : ε₂ → Act S → ε₂ × Bool)
    (p : XProg S σ) (e₁ : ε₁) (e₂ : ε₂)
    (a₁ : ∀ x ∈ (p.run h₁ e₁).transcript, x.2 = true) (a₂ : ∀ x ∈ (p.run h₂ e₂).transcript, x.2 = true) :
    (p.run h₁ e₁).transcript = (p.run h₂ e₂).transcript ∧ (p.run h₁ e₁).out = (p.run h₂ e₂).out := by
  induction p generalizing e₁ e₂ with
  | done s | raise s => exact ⟨rfl, rfl⟩
  | act a k ih =>
    simp only [XProg.run, List.forall_mem_cons] at a₁ a₂ ⊢
    obtain ⟨b₁, t₁⟩ := a₁
    obtain ⟨b₂, t₂⟩ := a₂
    rw [b₁] at t₁ ⊢
    rw [b₂] at t₂ ⊢
    exact ⟨by rw [(ih true _ _ t₁ t₂).1], (ih true _ _ t₁ t₂).2⟩

theorem issued_nil : issued ([] : List (Act S × Bool)) = [] := rfl

theorem issued_append (t1 t2 : List (Act S × Bool)) : issued (t1 ++ t2) = issued t1 ++ issued t2 :=
  List.filterMap_append

theorem consequenceOf_of_refused (a : Act S) (h : iAccepts a = false) : consequenceOf a = none := by
  cases a with
  | req r => cases r <;> first | rfl | cases h
  | track k v => cases h
  | ext c => rfl

theorem issued_cons_accepts (a : Act S) (tr : List (Act S × Bool)) :
    issued ((a, iAccepts a) :: tr) = [a].filterMap consequenceOf ++ issued tr := by
  cases h : iAccepts a
  · simp [issued, consequenceOf_of_refused a h]
  · cases hc : consequenceOf a <;> simp [issued, hc]

theorem iHandle_eq (p : IProv S) (a : Act S) :
    iHandle p a = ({ p with consequences := p.consequences ++ [a].filterMap consequenceOf }, iAccepts a) := by
  unfold iHandle
  cases h : iAccepts a
  · simp [consequenceOf_of_refused a h]
  · cases hc : consequenceOf a <;> simp [hc]

theorem run_iHandle (p : XProg S σ) (st : IProv S) :
    (p.run iHandle st).env = { st with consequences := st.consequences ++ issued (p.run iHandle st).transcript } ∧
    issued (p.run iHandle st).transcript = ((p.run iHandle st).transcript.map Prod.fst).filterMap consequenceOf := by
  refine run_induction iHandle (fun e tr e' => e' = { e with consequences := e.consequences ++ issued tr } ∧
    issued tr = (tr.map Prod.fst).filterMap consequenceOf) (fun e => ⟨by simp [issued], rfl⟩) ?_ p st
  intro e a tr e' ⟨h1, h2⟩
  rw [iHandle_eq] at h1 ⊢
  rw [issued_cons_accepts]
  exact ⟨by simp only [h1, List.append_assoc], by rw [h2]; exact List.filterMap_append.symm⟩

theorem icallback_eq (P : XProto S σ) (w : IW S σ) (t : Int) (cb : Callback S) :
    icallback P w t cb =
      let r := icallbackRun P w t cb
      let all := w.prov.consequences ++ issued r.transcript
      (⟨⟨if r.out.isReturned then [] else all, t, w.prov.id⟩, r.out.state⟩,
       ⟨if r.out.isReturned then some all else none, r.transcript⟩) := by
  unfold icallback icollect
  dsimp only
  rw [show (icallbackRun P w t cb).env = _ from (run_iHandle _ _).1]
  cases (icallbackRun P w t cb).out <;> rfl

theorem icallback_transcript (P : XProto S σ) (w : IW S σ) (t : Int) (cb : Callback S) :
    (icallback P w t cb).2.transcript = (icallbackRun P w t cb).transcript := by
  rw [icallback_eq]

theorem icallback_returns (P : XProto S σ) (w : IW S σ) (t : Int) (cb : Callback S)
    (h : NeverRaises (P.react w.pstate w.prov.id t cb)) : (icallback P w t cb).2.ret ≠ none := by
  rw [icallback_eq]
  dsimp only
  rw [show (icallbackRun P w t cb).out.isReturned = true from run_returns _ _ h _, if_pos rfl]
  exact nofun

theorem icallback_returned (P : XProto S σ) (w : IW S σ) (t : Int) (cb : Callback S)
    (h : (icallback P w t cb).2.ret ≠ none) :
    (icallback P w t cb).2.ret = some (w.prov.consequences ++ issued (icallback P w t cb).2.transcript) ∧
    (icallback P w t cb).1.prov.consequences = [] := by
  rw [icallback_eq] at h ⊢
  cases hr : (icallbackRun P w t cb).out.isReturned <;> simp [hr] at h ⊢

theorem icallback_raised (P : XProto S σ) (w : IW S σ) (t : Int) (cb : Callback S)
    (h : (icallback P w t cb).2.ret = none) :
    (icallback P w t cb).1.prov.consequences =
      w.prov.consequences ++ issued (icallback P w t cb).2.transcript := by
  rw [icallback_eq] at h ⊢
  cases hr : (icallbackRun P w t cb).out.isReturned <;> simp [hr] at h ⊢

theorem returnedAll_cons (r : IRes S) (rs : List (IRes S)) :
    returnedAll (r :: rs) = r.ret.getD [] ++ returnedAll rs := by
  cases hr : r.ret <;> simp [returnedAll, hr]

theorem icallback_conserves (P : XProto S σ) (w : IW S σ) (t : Int) (cb : Callback S) :
    ((icallback P w t cb).2.ret.getD []) ++ (icallback P w t cb).1.prov.consequences =
      w.prov.consequences ++ issued (icallback P w t cb).2.transcript := by
  rw [icallback_eq]
  cases h : (icallbackRun P w t cb).out.isReturned <;> simp [h]

/-- the request an action hands to a handler of `PythonProvider`, with that handler -/
def forwarded : Act S → Option (Handler × Request S)
  | .req r => (route r).map (·, r)
  | .track _ _ => none
  | .ext _ => none

theorem pHandle_fst (acc : PProv S → Act S → Bool) (p : PProv S) (a : Act S) :
    (pHandle acc p a).1 = { p with log := p.log ++ [a].filterMap forwarded } := by
  cases a with
  | req r => cases hr : route r <;> simp [pHandle, forwarded, hr]
  | _ => simp [pHandle, forwarded, List.filterMap_cons]

theorem run_pHandle (acc : PProv S → Act S → Bool) (p : XProg S σ) (st : PProv S) :
    (p.run (pHandle acc) st).env =
      { st with log := st.log ++ ((p.run (pHandle acc) st).transcript.map Prod.fst).filterMap forwarded } := by
  refine run_induction (pHandle acc) (fun e tr e' => e' = { e with log := e.log ++ (tr.map Prod.fst).filterMap forwarded })
    (fun e => by simp) ?_ p st
  intro e a tr e' h
  rw [pHandle_fst] at h
  simp only [h, List.append_assoc, List.map_cons, ← List.filterMap_append, List.singleton_append]

theorem bind_fwdConsequence (a : Act S) :
    (forwarded a).bind fwdConsequence = (consequenceOf a).filter (fun c => !isTrack c) := by
  cases a with
  | req r => cases r <;> rfl
  | track k v | ext c => rfl

/-- request by request: what python forwards (cancelTimer apart, which has no interop counterpart)
    is what interop records (tracked-variable writes apart, which python keeps in a dict) -/
theorem filterMap_fwdConsequence (as : List (Act S)) :
    (as.filterMap forwarded).filterMap fwdConsequence = (as.filterMap consequenceOf).filter (fun c => !isTrack c) := by
  simp only [List.filterMap_filterMap, List.filter_filterMap, bind_fwdConsequence]

def isCancel : Act S → Bool
  | .req (.cancelTimer _) => true
  | _ => false

theorem fwdConsequence_isSome {a : Act S} {x : Handler × Request S} (hx : forwarded a = some x) :
    (fwdConsequence x).isSome = !isCancel a := by
  cases a with
  | req r => cases r <;> cases hx <;> rfl
  | track k v | ext c => cases hx

theorem map_fwdConsequence (as : List (Act S)) (h : ∀ a ∈ as, isCancel a = false) :
    (as.filterMap forwarded).map fwdConsequence =
      ((as.filterMap forwarded).filterMap fwdConsequence).map some := by
  rw [List.map_filterMap_some_eq_filter_map_isSome, eq_comm, List.filter_eq_self]
  refine List.forall_mem_map.mpr (List.forall_mem_filterMap.mpr fun a ha x hax => ?_)
  rw [fwdConsequence_isSome hax, h a ha]
  rfl

theorem irun_forall (P : XProto S σ) (Q : IRes S → Prop) (h : ∀ w t cb, Q (icallback P w t cb).2)
    (w : IW S σ) (steps : List (Int × Callback S)) : ∀ r ∈ (irun P w steps).2, Q r := by
  induction steps generalizing w with
  | nil => nofun
  | cons st rest ih => exact List.forall_mem_cons.mpr ⟨h w st.1 st.2, ih _⟩

/-- as long as every callback returns, nothing is pending between callbacks -/
theorem irun_returns_issued (P : XProto S σ) (w : IW S σ) (hw : w.prov.consequences = [])
    (steps : List (Int × Callback S)) (hret : ∀ r ∈ (irun P w steps).2, r.ret ≠ none) :
    (∀ r ∈ (irun P w steps).2, r.ret = some (issued r.transcript)) ∧
    (irun P w steps).1.prov.consequences = [] := by
  induction steps generalizing w with
  | nil => exact ⟨nofun, hw⟩
  | cons st rest ih =>
    simp only [irun, List.forall_mem_cons] at hret ⊢
    have h := icallback_returned P w st.1 st.2 hret.1
    have ih' := ih _ h.2 hret.2
    exact ⟨⟨by rw [h.1, hw, List.nil_append], ih'.1⟩, ih'.2⟩

/-- whether callbacks return or raise, a run neither loses nor invents a consequence: what was
    returned and what is still pending is what was pending at the start and what was issued -/
theorem irun_conserves (P : XProto S σ) (w : IW S σ) (steps : List (Int × Callback S)) :
    returnedAll (irun P w steps).2 ++ (irun P w steps).1.prov.consequences =
      w.prov.consequences ++ ((irun P w steps).2.map (fun r => issued r.transcript)).flatten := by
  induction steps generalizing w with
  | nil => simp [irun, returnedAll]
  | cons st rest ih =>
    simp only [irun, returnedAll_cons, List.map_cons, List.flatten_cons]
    rw [List.append_assoc, ih, ← List.append_assoc, icallback_conserves, List.append_assoc]

theorem irun_issued (P : XProto S σ) (w : IW S σ) (steps : List (Int × Callback S)) :
    ((irun P w steps).2.map (fun r => issued r.transcript)).flatten =
      (((irun P w steps).2.map (fun r => r.transcript.map Prod.fst)).flatten).filterMap consequenceOf := by
  have h : ∀ w t cb, issued (icallback P w t cb).2.transcript =
      ((icallback P w t cb).2.transcript.map Prod.fst).filterMap consequenceOf := fun w t cb => by
    rw [icallback_transcript]
    exact (run_iHandle _ _).2
  rw [List.filterMap_flatten, List.map_map]
  exact congrArg _ (List.map_congr_left (irun_forall P _ h w steps))

theorem prun_log (acc : PProv S → Act S → Bool) (P : XProto S σ) (w : PW S σ)
    (steps : List (Int × Callback S)) :
    (prun acc P w steps).1.prov.log =
      w.prov.log ++ (((prun acc P w steps).2.map (fun tr => tr.map Prod.fst)).flatten).filterMap forwarded := by
  induction steps generalizing w with
  | nil => simp [prun]
  | cons st rest ih =>
    simp only [prun, List.map_cons, List.flatten_cons, List.filterMap_append]
    rw [ih, ← List.append_assoc]
    congr 2
    exact congrArg PProv.log (run_pHandle acc _ _)

/-- the simulation behind `C14_wrapper_equivalence` and `…_nothing_refused`.  Two wrappers in the same protocol state and with the same
    id are driven through the same callbacks.  Whenever the two runs of a callback's program agree in
    outcome and in what `f` sees of the transcript — granted that both transcripts are `ok` — the
    wrappers stay in step, and the two runs show the same to `f`, callback by callback. -/
theorem sim_seq {β : Type} (f : List (Act S × Bool) → β) (ok : List (Act S × Bool) → Prop)
    (acc : PProv S → Act S → Bool) (P : XProto S σ)
    (hstep : ∀ s n t cb (ep : PProv S) (ei : IProv S),
      let rp := (P.react s n t cb).run (pHandle acc) ep
      let ri := (P.react s n t cb).run iHandle ei
      ok rp.transcript → ok ri.transcript → f rp.transcript = f ri.transcript ∧ rp.out = ri.out)
    (wp : PW S σ) (wi : IW S σ) (hs : wp.pstate = wi.pstate) (hid : wp.prov.id = wi.prov.id)
    (steps : List (Int × Callback S))
    (hp : ∀ tr ∈ (prun acc P wp steps).2, ok tr) (hi : ∀ r ∈ (irun P wi steps).2, ok r.transcript) :
    (prun acc P wp steps).2.map f = (irun P wi steps).2.map (fun r => f r.transcript) := by
  induction steps generalizing wp wi with
  | nil => rfl
  | cons st rest ih =>
    obtain ⟨⟨log, now, n⟩, s⟩ := wp
    obtain ⟨⟨cs, ts, n'⟩, s'⟩ := wi
    cases hs
    cases hid
    simp only [prun, irun, List.map_cons, List.forall_mem_cons] at hp hi ⊢
    rw [icallback_eq] at hi ⊢
    have h := hstep s n st.1 st.2 _ _ hp.1 hi.1
    rw [ih _ _ (congrArg Outcome.state h.2) (congrArg PProv.id (run_pHandle acc _ _)) hp.2 hi.2]
    exact congrArg (· :: _) h.1

/-- no callback need return: what was not returned is still pending, and counted.  The log is what the
    transcripts forward (`prun_log`); returned and pending together are what they issued (`irun_conserves`), the
    consequences of their actions (`irun_issued`); the two agree request by request (`filterMap_fwdConsequence`). -/
theorem forwarded_eq_returned (acc : PProv S → Act S → Bool) (P : XProto S σ) (id : NodeId)
    (steps : List (Int × Callback S))
    (h : (prun acc P (PW.init P id) steps).2.map (fun tr => tr.map Prod.fst) =
      (irun P (IW.init P id) steps).2.map (fun r => r.transcript.map Prod.fst)) :
    (prun acc P (PW.init P id) steps).1.prov.log.filterMap fwdConsequence =
      (returnedAll (irun P (IW.init P id) steps).2 ++
        (irun P (IW.init P id) steps).1.prov.consequences).filter (fun c => !isTrack c) := by
  rw [prun_log, irun_conserves, irun_issued, h]
  exact filterMap_fwdConsequence _

theorem runMulti_proj {W R C : Type} (step : W → C → W × R) (ws : Nat → W) (steps : List (Nat × C)) (k : Nat) :
    resultsOf k (runMulti step ws steps).2 = (runSeq step (ws k) (stepsOf k steps)).2 ∧
    (runMulti step ws steps).1 k = (runSeq step (ws k) (stepsOf k steps)).1 := by
  induction steps generalizing ws with
  | nil => exact ⟨rfl, rfl⟩
  | cons st rest ih =>
    obtain ⟨j, c⟩ := st
    have ih' := ih (fun i => if i = j then (step (ws j) c).1 else ws i)
    simp only [runMulti, resultsOf, stepsOf, List.filter_cons, beq_iff_eq]
    split
    · next h =>
      subst h
      rw [if_pos rfl] at ih'
      exact ⟨congrArg (_ :: ·) ih'.1, ih'.2⟩
    · next h =>
      rw [if_neg (Ne.symm h)] at ih'
      exact ih'

theorem irun_eq_runSeq (P : XProto S σ) (w : IW S σ) (steps : List (Int × Callback S)) :
    irun P w steps = runSeq (istep P) w steps := by
  induction steps generalizing w with
  | nil => rfl
  | cons st rest ih => exact congrArg (fun rr => (rr.1, _ :: rr.2)) (ih _)

theorem prun_eq_runSeq (acc : PProv S → Act S → Bool) (P : XProto S σ) (w : PW S σ)
    (steps : List (Int × Callback S)) : prun acc P w steps = runSeq (pstep acc P) w steps := by
  induction steps generalizing w with
  | nil => rfl
  | cons st rest ih => exact congrArg (fun rr => (rr.1, _ :: rr.2)) (ih _)

theorem irunMulti_proj (P : XProto S σ) (ws : Nat → IW S σ) (steps : List (Nat × Int × Callback S)) (k : Nat) :
    resultsOf k (irunMulti P ws steps).2 = (irun P (ws k) (stepsOf k steps)).2 ∧
    (irunMulti P ws steps).1 k = (irun P (ws k) (stepsOf k steps)).1 :=
  irun_eq_runSeq P .. ▸ runMulti_proj (istep P) ws steps k

theorem prunMulti_proj (acc : PProv S → Act S → Bool) (P : XProto S σ) (ws : Nat → PW S σ)
    (steps : List (Nat × Int × Callback S)) (k : Nat) :
    resultsOf k (prunMulti acc P ws steps).2 = (prun acc P (ws k) (stepsOf k steps)).2 ∧
    (prunMulti acc P ws steps).1 k = (prun acc P (ws k) (stepsOf k steps)).1 :=
  prun_eq_runSeq acc P .. ▸ runMulti_proj (pstep acc P) ws steps k

theorem mem_resultsOf {R : Type} (x : Nat × R) (rs : List (Nat × R)) (h : x ∈ rs) : x.2 ∈ resultsOf x.1 rs :=
  List.mem_map.mpr ⟨x, List.mem_filter.mpr ⟨h, beq_self_eq_true _⟩, rfl⟩

namespace Ext

theorem call_of_no_handler (p : Provider) (c : ExtCall) (h : handler? p (labelOf c) = false) :
    call p c = ⟨true, false, true⟩ := by
  cases c with
  | cameraChangeFacing => rfl
  | _ => exact if_neg (Bool.eq_false_iff.mp h)

theorem setRange_other (r : S) : setRange .other r = ⟨!(Scalar.lt r (Scalar.ofInt 0)), false, true⟩ := by
  unfold setRange
  cases Scalar.lt r (Scalar.ofInt 0) <;> rfl

theorem takePicture_keeps (p : Provider) (sees : List Nat) (al : Album) (i : Nat) (hi : i < al.length) :
    (takePicture p sees al).2[i]? = al[i]? :=
  List.getElem?_append_left hi

end Ext

/-- the same predicate as `NeverRaises` (which is already stated for programs ending in any type) under
    a second name; the statements about handlers are written with this one -/
inductive NeverRaises' {α : Type} : XProg S α → Prop
  | done (a : α) : NeverRaises' (.done a)
  | act (x : Act S) (k : Bool → XProg S α) (h : ∀ b, NeverRaises' (k b)) : NeverRaises' (.act x k)

theorem neverRaises_bind {α : Type} (p : XProg S α) (f : α → XProg S σ) (g : α → σ)
    (hp : NeverRaises' p) (hf : ∀ a, NeverRaises (f a)) : NeverRaises (XProg.bind p f g) := by
  induction hp with
  | done a => exact hf a
  | act x k _ ih => exact .act _ _ ih

theorem neverRaises_chainProg (own : σ → XProg S σ) (intr : Bool) (hs : List (σ → XProg S (σ × Bool)))
    (hown : ∀ s, NeverRaises (own s)) (hhs : ∀ h ∈ hs, ∀ s, NeverRaises' (h s)) (s : σ) :
    NeverRaises (chainProg own intr hs s) := by
  induction hs generalizing s with
  | nil => exact hown s
  | cons h hs ih =>
    obtain ⟨hh, hhs⟩ := List.forall_mem_cons.mp hhs
    refine neverRaises_bind _ _ _ (hh s) (fun r => ?_)
    split
    · exact .done _
    · exact ih hhs _

theorem bind_ofList {α β : Type} (a : α) (as : List (Act S)) (f : α → XProg S β) (g : α → β) (b : β)
    (bs : List (Act S)) (hf : f a = XProg.ofList b bs) :
    XProg.bind (XProg.ofList a as) f g = XProg.ofList b (as ++ bs) := by
  induction as with
  | nil => exact hf
  | cons x as ih => exact congrArg (fun p => XProg.act x fun _ => p) ih

theorem chainProg_ofList (ownNext : σ → σ) (ownActs : σ → List (Act S)) (intr : Bool)
    (hs : List (σ → (σ × Bool) × List (Act S))) (s : σ) :
    chainProg (fun s' => XProg.ofList (ownNext s') (ownActs s')) intr
        (hs.map (fun h s' => XProg.ofList (h s').1 (h s').2)) s =
      XProg.ofList (chainL ownNext ownActs intr hs s).1 (chainL ownNext ownActs intr hs s).2 := by
  induction hs generalizing s with
  | nil => rfl
  | cons h hs ih =>
    simp only [List.map_cons, chainProg, chainL]
    split
    · next hc =>
      refine (bind_ofList _ _ _ _ _ [] ?_).trans (congrArg _ (List.append_nil _))
      exact if_pos hc
    · next hc =>
      refine bind_ofList _ _ _ _ _ _ ?_
      exact (if_neg hc).trans (ih _)

theorem plugged_toX (P : LProto S σ) (on : σ → Bool) (chain : List (LStage S σ)) :
    (P.plugged on chain).toX = P.toX.plugged on (chain.map LStage.toStage) := by
  refine congrArg (XProto.mk P.init) (funext fun s => funext fun n => funext fun t => funext fun cb => ?_)
  simp only [LProto.plugged]
  split
  · rw [List.map_map, ← chainProg_ofList, List.map_map]
    rfl
  · rfl

end Interop
