import GradysModel.Dispatcher
/-
  Lemmas about GradysModel/Dispatcher.lean.  `walk`, for any callee semantics (`Lemmas/RandomTrip.lean` has
  its own): which callees run (`walk_spec`), what is kept along the way (`walk_rel`, `walk_sim`).  `ChainOK`;
  the equations of `Chains`, `Registry`, `DState`, `invoke`, `dispatch`.  `StableAt`: a callee acts on the
  dispatcher world only by `bump`, `applyROp` and `create` on the instance it runs for, and a predicate that
  survives these three survives invocations, dispatches and whole histories.  `DInv`, the instance C15
  reads the shape of reachable chains from.
  Lower-case names (`chainOK_cons`, `logged_own`, `other_stableAt`, `dinv_create`) establish the notion they
  mention; dotted ones (`ChainOK.ne_nil`, `StableAt.dispatch`, `DInv.chain`) are what a proof `h` of it gives (`h.foo`).
-/

namespace Disp

section Walk
-- `dispatch beh s p k` is `walk (invoke beh p k) k.interruptible (s.reg.chain p k) s` by definition, and
-- `dispatchN beh (fuel + 1) s p k` such a `walk` of `invokeN`: the lemmas of this section apply to both as they stand
variable {σ β : Type}

theorem walk_nil (f : Entry → σ → σ × Ret × β) (intr : Bool) (s : σ) : walk f intr [] s = (s, []) := rfl

theorem walk_cons (f : Entry → σ → σ × Ret × β) (intr : Bool) (e : Entry) (es : List Entry) (s : σ) :
    walk f intr (e :: es) s =
      if intr && (f e s).2.1 == Ret.interrupt then ((f e s).1, [⟨e, (f e s).2.1, (f e s).2.2⟩])
      else ((walk f intr es (f e s).1).1, ⟨e, (f e s).2.1, (f e s).2.2⟩ :: (walk f intr es (f e s).1).2) := rfl

section
variable {f : Entry → σ → σ × Ret × β} {intr : Bool} {es : List Entry} {s : σ}

theorem walk_spec :
    ∃ post, es = (walk f intr es s).2.map (·.entry) ++ post ∧ (intr = false → post = []) ∧
      (intr = true → (∀ c ∈ (walk f intr es s).2.dropLast, c.ret ≠ Ret.interrupt) ∧
        (post ≠ [] → ∃ c, (walk f intr es s).2.getLast? = some c ∧ c.ret = Ret.interrupt)) := by
  induction es generalizing s with
  | nil => exact ⟨[], rfl, fun _ => rfl, fun _ => ⟨fun _ => nofun, fun h => absurd rfl h⟩⟩
  | cons e es ih =>
    rw [walk_cons]
    split
    · next h =>
      rw [Bool.and_eq_true, beq_iff_eq] at h
      exact ⟨es, rfl, fun hi => absurd (hi ▸ h.1) Bool.false_ne_true,
        fun _ => ⟨fun _ => nofun, fun _ => ⟨_, rfl, h.2⟩⟩⟩
    · next h =>
      obtain ⟨post, h1, h2, h3⟩ := ih (s := (f e s).1)
      refine ⟨post, congrArg (e :: ·) h1, h2, fun hi => ?_⟩
      obtain ⟨h4, h5⟩ := h3 hi
      constructor
      · -- `c` is the record of `e`, which did not interrupt, or a non-last record of the rest
        intro c hc
        cases hw : (walk f intr es (f e s).1).2 with
        | nil => rw [hw] at hc; nomatch hc
        | cons x xs =>
          rw [hw, List.dropLast_cons_cons] at hc
          rcases List.mem_cons.mp hc with rfl | hc
          · exact fun hr => h (by rw [hi, Bool.true_and, beq_iff_eq]; exact hr)
          · exact h4 c (hw ▸ hc)
      · intro hp
        obtain ⟨c, hc, hr⟩ := h5 hp
        exact ⟨c, by rw [List.getLast?_cons, hc]; rfl, hr⟩

theorem walk_prefix : ((walk f intr es s).2.map (·.entry)) <+: es :=
  let ⟨post, h, _⟩ := walk_spec
  ⟨post, h.symm⟩

theorem walk_all (hi : intr = false) : ((walk f intr es s).2.map (·.entry)) = es := by
  obtain ⟨post, h1, h2, -⟩ := walk_spec
  rw [h2 hi, List.append_nil] at h1
  exact h1.symm

theorem walk_interrupt (hi : intr = true) :
    ∃ post, es = (walk f intr es s).2.map (·.entry) ++ post ∧
      (∀ c ∈ (walk f intr es s).2.dropLast, c.ret ≠ Ret.interrupt) ∧
      (post ≠ [] → ∃ c, (walk f intr es s).2.getLast? = some c ∧ c.ret = Ret.interrupt) :=
  walk_spec.imp fun _ h => ⟨h.1, h.2.2 hi⟩

theorem walk_ne_nil (h : es ≠ []) : (walk f intr es s).2 ≠ [] := by
  cases es with
  | nil => exact absurd rfl h
  | cons e es =>
    rw [walk_cons]
    split <;> exact List.cons_ne_nil _ _

theorem walk_rel (R : σ → List (Call β) → Prop)
    (hf : ∀ e s cs, R s cs → R (f e s).1 (cs ++ [⟨e, (f e s).2.1, (f e s).2.2⟩]))
    (cs : List (Call β)) (hs : R s cs) : R (walk f intr es s).1 (cs ++ (walk f intr es s).2) := by
  induction es generalizing s cs with
  | nil => rwa [walk_nil, List.append_nil]
  | cons e es ih =>
    rw [walk_cons]
    split
    · exact hf e s cs hs
    · rw [List.append_cons]
      exact ih _ (hf e s cs hs)

theorem walk_forall (Q : Call β → Prop) (hf : ∀ e s, Q ⟨e, (f e s).2.1, (f e s).2.2⟩) :
    ∀ c ∈ (walk f intr es s).2, Q c :=
  walk_rel (fun _ cs => ∀ c ∈ cs, Q c)
    (fun e s _ h c hc => (List.mem_append.mp hc).elim (h c) fun hc => List.mem_singleton.mp hc ▸ hf e s)
    [] (fun _ => nofun)

theorem walk_sim {τ γ : Type} {g : Entry → τ → τ × Ret × γ} (R : σ → τ → Prop)
    (h : ∀ e s t, R s t → R (f e s).1 (g e t).1 ∧ (f e s).2.1 = (g e t).2.1) {t : τ} (hr : R s t) :
    R (walk f intr es s).1 (walk g intr es t).1 ∧
    (walk f intr es s).2.map (fun c => (c.entry, c.ret)) = (walk g intr es t).2.map (fun c => (c.entry, c.ret)) := by
  induction es generalizing s t with
  | nil => exact ⟨hr, rfl⟩
  | cons e es ih =>
    obtain ⟨h1, h2⟩ := h e s t hr
    rw [walk_cons, walk_cons, h2]
    split
    · exact ⟨h1, rfl⟩
    · obtain ⟨i1, i2⟩ := ih h1
      exact ⟨i1, congrArg (_ :: ·) i2⟩

end

theorem walk_length_le (f : Entry → σ → σ × Ret × β) (intr : Bool) (es : List Entry) (s : σ) :
    (walk f intr es s).2.length ≤ es.length := by
  rw [← List.length_map Call.entry]
  exact walk_prefix.length_le

end Walk

def ChainOK (l : List Entry) : Prop := ∃ hs, l = hs ++ [Entry.own] ∧ Entry.own ∉ hs

theorem chainOK_fresh : ChainOK [Entry.own] := ⟨[], rfl, by simp⟩

theorem chainOK_cons {l : List Entry} (h : Nat) (hl : ChainOK l) : ChainOK (Entry.h h :: l) := by
  obtain ⟨hs, rfl, hn⟩ := hl
  exact ⟨Entry.h h :: hs, rfl, by simp [hn]⟩

theorem chainOK_erase {l : List Entry} (h : Nat) (hl : ChainOK l) : ChainOK (l.erase (Entry.h h)) := by
  obtain ⟨hs, rfl, hn⟩ := hl
  by_cases hm : Entry.h h ∈ hs
  · rw [List.erase_append_left _ hm]
    exact ⟨_, rfl, fun hc => hn (List.mem_of_mem_erase hc)⟩
  · rw [List.erase_append_right _ hm]
    exact ⟨hs, by simp, hn⟩

theorem ChainOK.ne_nil {l : List Entry} (hl : ChainOK l) : l ≠ [] := by
  obtain ⟨hs, rfl, _⟩ := hl
  simp

theorem ChainOK.own_last {l : List Entry} (hl : ChainOK l) :
    l.count Entry.own = 1 ∧ l.getLast? = some Entry.own := by
  obtain ⟨hs, rfl, hn⟩ := hl
  simp [List.count_eq_zero_of_not_mem hn]

namespace Chains

@[simp] theorem set_same (c : Chains) (k : Kind) (l : List Entry) : (c.set k l) k = l := by
  cases k <;> rfl

theorem set_other (c : Chains) {k k' : Kind} (l : List Entry) (h : k' ≠ k) : (c.set k l) k' = c k' := by
  cases k <;> cases k' <;> first | rfl | exact absurd rfl h

theorem forall_set {Q : Kind → List Entry → Prop} {c : Chains} {k : Kind} {l : List Entry}
    (hc : ∀ k', Q k' (c k')) (hl : Q k l) (k' : Kind) : Q k' ((c.set k l) k') := by
  by_cases hk : k' = k
  · rw [hk, set_same]
    exact hl
  · rw [set_other _ _ hk]
    exact hc k'

@[simp] theorem fresh_get (k : Kind) : Chains.fresh k = [Entry.own] := by
  cases k <;> rfl

theorem unregister_of_mem {c : Chains} {k : Kind} {h : Nat} (hm : Entry.h h ∈ c k) :
    c.unregister k h = some (c.set k ((c k).erase (Entry.h h))) := if_pos hm

theorem unregister_of_not_mem {c : Chains} {k : Kind} {h : Nat} (hm : Entry.h h ∉ c k) :
    c.unregister k h = none := if_neg hm

end Chains

namespace Registry

@[simp] theorem upd_same (r : Registry) (p : Nat) (c : Chains) : (r.upd p c) p = some c := by simp [upd]

theorem upd_other (r : Registry) {p q : Nat} (c : Chains) (h : q ≠ p) : (r.upd p c) q = r q := by
  simp [upd, h]

theorem create_some {r : Registry} {p : Nat} {c : Chains} (h : r p = some c) : r.create p = r := by
  simp [create, h]

theorem create_none {r : Registry} {p : Nat} (h : r p = none) : r.create p = r.upd p Chains.fresh := by
  simp [create, h]

theorem register_none {r : Registry} {p : Nat} (k : Kind) (h : Nat) (hr : r p = none) :
    r.register p k h = (r, Res.nodispatcher) := by
  simp [register, hr]

theorem register_some {r : Registry} {p : Nat} {c : Chains} (k : Kind) (h : Nat) (hr : r p = some c) :
    r.register p k h = (r.upd p (c.register k h), Res.ok) := by
  simp [register, hr]

theorem unregister_none {r : Registry} {p : Nat} (k : Kind) (h : Nat) (hr : r p = none) :
    r.unregister p k h = (r, Res.nodispatcher) := by
  simp [unregister, hr]

theorem unregister_absent {r : Registry} {p : Nat} {c : Chains} {k : Kind} {h : Nat} (hr : r p = some c)
    (hm : Entry.h h ∉ c k) : r.unregister p k h = (r, Res.absent) := by
  simp [unregister, hr, Chains.unregister_of_not_mem hm]

theorem unregister_ok {r : Registry} {p : Nat} {c : Chains} {k : Kind} {h : Nat} (hr : r p = some c)
    (hm : Entry.h h ∈ c k) : r.unregister p k h = (r.upd p (c.set k ((c k).erase (Entry.h h))), Res.ok) := by
  simp [unregister, hr, Chains.unregister_of_mem hm]

theorem create_other (r : Registry) {p q : Nat} (h : q ≠ p) : (r.create p) q = r q := by
  cases hr : r p with
  | some c => rw [create_some hr]
  | none => rw [create_none hr, upd_other _ _ h]

theorem applyROp_other (r : Registry) {p q : Nat} (o : ROp) (hq : q ≠ p) : (r.applyROp p o).1 q = r q := by
  cases o with
  | reg k h =>
    show (r.register p k h).1 q = r q
    cases hr : r p with
    | none => rw [register_none k h hr]
    | some c => rw [register_some k h hr]; exact upd_other _ _ hq
  | unreg k h =>
    show (r.unregister p k h).1 q = r q
    cases hr : r p with
    | none => rw [unregister_none k h hr]
    | some c =>
      by_cases hm : Entry.h h ∈ c k
      · rw [unregister_ok hr hm]; exact upd_other _ _ hq
      · rw [unregister_absent hr hm]

theorem after_append (r : Registry) (p : Nat) (a b : List ROp) :
    r.after p (a ++ b) = (r.after p a).after p b := by
  induction a generalizing r with
  | nil => rfl
  | cons o os ih => simp only [List.cons_append, after, ih]

theorem chain_some {r : Registry} {p : Nat} {c : Chains} (h : r p = some c) (k : Kind) : r.chain p k = c k := by
  simp [chain, h]

theorem chain_none {r : Registry} {p : Nat} (h : r p = none) (k : Kind) : r.chain p k = [Entry.own] := by
  simp [chain, h]

theorem chain_upd (r : Registry) (p : Nat) (c : Chains) (k : Kind) : (r.upd p c).chain p k = c k :=
  chain_some (upd_same r p c) k

end Registry

namespace DState

theorem create_some {s : DState} {p : Nat} {c : Chains} (h : s.reg p = some c) : s.create p = s := by
  simp [create, h]

theorem create_none {s : DState} {p : Nat} (h : s.reg p = none) :
    s.create p = { s with reg := s.reg.upd p Chains.fresh } := by
  simp [create, h]

theorem create_eq (s : DState) (p : Nat) : s.create p = { s with reg := s.reg.create p } := by
  cases h : s.reg p with
  | some c => rw [create_some h, Registry.create_some h]
  | none => rw [create_none h, Registry.create_none h]

theorem create_reg (s : DState) (p : Nat) : (s.create p).reg = s.reg.create p := by rw [create_eq]

@[simp] theorem bump_reg (s : DState) (c : Callee) : (s.bump c).reg = s.reg := rfl
@[simp] theorem bump_regLog (s : DState) (c : Callee) : (s.bump c).regLog = s.regLog := rfl

@[simp] theorem register_res (s : DState) (p : Nat) (k : Kind) (h : Nat) :
    (s.register p k h).2 = (s.reg.register p k h).2 := rfl
@[simp] theorem unregister_res (s : DState) (p : Nat) (k : Kind) (h : Nat) :
    (s.unregister p k h).2 = (s.reg.unregister p k h).2 := rfl

theorem register_none {s : DState} {p : Nat} (k : Kind) (h : Nat) (hr : s.reg p = none) :
    s.register p k h = (s, Res.nodispatcher) := by
  simp [register, Registry.register_none k h hr]

theorem register_some {s : DState} {p : Nat} {c : Chains} (k : Kind) (h : Nat) (hr : s.reg p = some c) :
    s.register p k h =
      ({ s with reg := s.reg.upd p (c.register k h), regLog := (p, k, h) :: s.regLog }, Res.ok) := by
  simp [register, Registry.register_some k h hr]

theorem unregister_none {s : DState} {p : Nat} (k : Kind) (h : Nat) (hr : s.reg p = none) :
    s.unregister p k h = (s, Res.nodispatcher) := by
  simp [unregister, Registry.unregister_none k h hr]

theorem unregister_absent {s : DState} {p : Nat} {c : Chains} {k : Kind} {h : Nat} (hr : s.reg p = some c)
    (hm : Entry.h h ∉ c k) : s.unregister p k h = (s, Res.absent) := by
  simp [unregister, Registry.unregister_absent hr hm]

theorem unregister_ok {s : DState} {p : Nat} {c : Chains} {k : Kind} {h : Nat} (hr : s.reg p = some c)
    (hm : Entry.h h ∈ c k) :
    s.unregister p k h = ({ s with reg := s.reg.upd p (c.set k ((c k).erase (Entry.h h))) }, Res.ok) := by
  simp [unregister, Registry.unregister_ok hr hm]

-- `_reg` is the field `DState.reg`, as in `create_reg`, `bump_reg`, `dispatch_reg`; `o` is any request, not `ROp.reg`
theorem applyROp_reg (s : DState) (p : Nat) (o : ROp) : (s.applyROp p o).1.reg = (s.reg.applyROp p o).1 := by
  cases o <;> rfl

theorem applyROps_reg (s : DState) (p : Nat) (os : List ROp) : (s.applyROps p os).1.reg = s.reg.after p os := by
  induction os generalizing s with
  | nil => rfl
  | cons o os ih =>
    simp only [applyROps, Registry.after]
    rw [ih, applyROp_reg]

theorem applyROps_ops (s : DState) (p : Nat) (os : List ROp) : (s.applyROps p os).2.map (·.1) = os := by
  induction os generalizing s with
  | nil => rfl
  | cons o os ih => simp only [applyROps, List.map_cons, ih]

end DState

theorem invoke_reg (beh : Beh) (p : Nat) (k : Kind) (e : Entry) (s : DState) :
    (invoke beh p k e s).1.reg = s.reg.after p ((invoke beh p k e s).2.2.rops.map (·.1)) := by
  simp only [invoke]
  rw [DState.applyROps_reg, DState.applyROps_ops, DState.bump_reg]

theorem performed_nil : performed [] = [] := rfl

theorem performed_singleton (c : Call CallInfo) : performed [c] = c.info.rops.map (·.1) :=
  List.flatMap_singleton ..

theorem performed_append (a b : List (Call CallInfo)) : performed (a ++ b) = performed a ++ performed b :=
  List.flatMap_append

theorem dispatch_reg (beh : Beh) (s : DState) (p : Nat) (k : Kind) :
    (dispatch beh s p k).1.reg = s.reg.after p (performed (dispatch beh s p k).2) :=
  walk_rel (fun (s' : DState) cs => s'.reg = s.reg.after p (performed cs))
    (fun e s' cs h => by
      rw [invoke_reg, h, ← Registry.after_append, performed_append, performed_singleton]) [] rfl

theorem dispatch_truthful (beh : Beh) (s : DState) (p : Nat) (k : Kind) :
    ∀ c ∈ (dispatch beh s p k).2, c.ret = (beh (calleeOf p k c.entry) c.info.n).ret ∧
      c.info.rops.map (·.1) = (beh (calleeOf p k c.entry) c.info.n).ops :=
  walk_forall _ fun _ _ => ⟨rfl, DState.applyROps_ops _ _ _⟩

-- `P` survives what a callee running for instance `p` can do.  `Stable` asks this at every instance, which
-- `DInv` meets; `other_stableAt` and `stableAt_regLog` hold at the one instance only
structure StableAt (P : DState → Prop) (p : Nat) : Prop where
  bump : ∀ s c, P s → P (s.bump c)
  rop : ∀ s o, P s → P (s.applyROp p o).1
  create : ∀ s, P s → P (s.create p)

section Inv
variable (P : DState → Prop)

structure Stable : Prop where
  bump : ∀ s c, P s → P (s.bump c)
  rop : ∀ s p o, P s → P (s.applyROp p o).1
  create : ∀ s p, P s → P (s.create p)

end Inv

theorem Stable.at {P : DState → Prop} (hP : Stable P) (p : Nat) : StableAt P p :=
  ⟨hP.bump, fun s => hP.rop s p, fun s => hP.create s p⟩

section
variable {P : DState → Prop} {p : Nat} (hP : StableAt P p)
include hP

theorem StableAt.applyROps (os : List ROp) {s : DState} (hs : P s) : P (s.applyROps p os).1 := by
  induction os generalizing s with
  | nil => exact hs
  | cons o os ih => exact ih (hP.rop s o hs)

theorem StableAt.invoke (beh : Beh) (k : Kind) (e : Entry) {s : DState} (hs : P s) : P (invoke beh p k e s).1 :=
  hP.applyROps _ (hP.bump s _ hs)

theorem StableAt.dispatch (beh : Beh) (k : Kind) {s : DState} (hs : P s) : P (dispatch beh s p k).1 :=
  walk_rel (fun s _ => P s) (fun e _ _ hs => hP.invoke beh k e hs) [] hs

end

theorem StableAt.step {P : DState → Prop} {s : DState} {op : Op} (hP : StableAt P op.inst) (beh : Beh)
    (hs : P s) : P (step beh s op).1 := by
  cases op with
  | create p => exact hP.create s hs
  | register p k h => exact hP.rop s (.reg k h) hs
  | unregister p k h => exact hP.rop s (.unreg k h) hs
  | dispatch p k => exact hP.dispatch beh k hs

theorem run_inv {P : DState → Prop} (beh : Beh) {ops : List Op} (hP : ∀ op ∈ ops, StableAt P op.inst)
    {s : DState} (hs : P s) : P (run beh s ops).1 := by
  induction ops generalizing s with
  | nil => exact hs
  | cons op ops ih =>
    exact ih (fun o ho => hP o (List.mem_cons_of_mem _ ho)) ((hP op List.mem_cons_self).step beh hs)

theorem other_stableAt {p q : Nat} (hq : q ≠ p) {c : Option Chains} : StableAt (fun s => s.reg q = c) p where
  bump := fun _ _ h => h
  rop := fun s o h => by rw [DState.applyROp_reg, Registry.applyROp_other _ o hq]; exact h
  create := fun s h => by rw [DState.create_reg, Registry.create_other _ hq]; exact h

/-- a callee running for instance `p` changes the registration log at most by adding registrations on `p`:
    a property of the log that survives those is stable -/
theorem stableAt_regLog {L : List (Nat × Kind × Nat) → Prop} {p : Nat} (hL : ∀ l k h, L l → L ((p, k, h) :: l)) :
    StableAt (fun s => L s.regLog) p where
  bump := fun _ _ h => h
  rop := fun s o hs => by
    cases o with
    | reg k h =>
      cases hr : s.reg p with
      | none => rwa [DState.applyROp, DState.register_none k h hr]
      | some c => rw [DState.applyROp, DState.register_some k h hr]; exact hL _ k h hs
    | unreg k h => exact hs
  create := fun s hs => by rw [DState.create_eq]; exact hs

theorem invoke_regLog_mono (beh : Beh) (p : Nat) (k : Kind) (e : Entry) (s : DState) :
    ∀ x ∈ s.regLog, x ∈ (invoke beh p k e s).1.regLog :=
  fun x hx => (stableAt_regLog (L := (x ∈ ·)) fun _ _ _ => List.mem_cons_of_mem _).invoke beh k e hx

def Logged (log : List (Nat × Kind × Nat)) (p : Nat) (k : Kind) (l : List Entry) : Prop :=
  ChainOK l ∧ ∀ h, Entry.h h ∈ l → (p, k, h) ∈ log

section
variable {log log' : List (Nat × Kind × Nat)} {p : Nat} {k : Kind} {l : List Entry}

theorem Logged.mono (hl : log ⊆ log') (h : Logged log p k l) : Logged log' p k l :=
  ⟨h.1, fun h' hm => hl (h.2 h' hm)⟩

theorem logged_own : Logged log p k [Entry.own] :=
  ⟨chainOK_fresh, fun _ hm => nomatch List.mem_singleton.mp hm⟩

/-- what a well-shaped, logged chain says about the callees invoked by any walk down it -/
theorem Logged.of_prefix (hl : Logged log p k l) {β : Type} {calls : List (Call β)}
    (hp : calls.map (·.entry) <+: l) :
    (calls.map (·.entry)).count Entry.own ≤ 1 ∧ ∀ c ∈ calls, ∀ h, c.entry = Entry.h h → (p, k, h) ∈ log :=
  ⟨hl.1.own_last.1 ▸ hp.sublist.count_le Entry.own,
   fun _ hc h he => hl.2 h (hp.subset (he ▸ List.mem_map_of_mem (f := (·.entry)) hc))⟩

end

/-- every wrapper of the registry has well-shaped chains -/
def RWF (r : Registry) : Prop := ∀ p c, r p = some c → ∀ k, ChainOK (c k)

/-- every handler in a chain of instance `p` for kind `k` was registered there -/
def DState.LogInv (s : DState) : Prop :=
  ∀ p c k h, s.reg p = some c → Entry.h h ∈ c k → (p, k, h) ∈ s.regLog

-- the working form is "every chain is `Logged`": `dinv_iff` in this file, `DInv.chain` in C15
structure DInv (s : DState) : Prop where
  wf : RWF s.reg
  log : DState.LogInv s

theorem dinv_iff {s : DState} : DInv s ↔ ∀ p c, s.reg p = some c → ∀ k, Logged s.regLog p k (c k) :=
  ⟨fun hs p c hc k => ⟨hs.wf p c hc k, fun h => hs.log p c k h hc⟩,
   fun H => ⟨fun p c hc k => (H p c hc k).1, fun p c k h hc => (H p c hc k).2 h⟩⟩

theorem dinv_upd {s : DState} (hs : DInv s) {log : List (Nat × Kind × Nat)} (hl : s.regLog ⊆ log) {p : Nat}
    {c : Chains} (hc : ∀ k, Logged log p k (c k)) : DInv { s with reg := s.reg.upd p c, regLog := log } :=
  dinv_iff.2 fun q c' (hq : (s.reg.upd p c) q = some c') => by
    by_cases h : q = p
    · rw [h, Registry.upd_same] at hq
      cases hq
      exact h ▸ hc
    · rw [Registry.upd_other _ c h] at hq
      exact fun k => (dinv_iff.1 hs q c' hq k).mono hl

theorem dinv_init : DInv DState.init := dinv_iff.2 (fun _ _ h => nomatch h)

theorem dinv_create {s : DState} (hs : DInv s) (p : Nat) : DInv (s.create p) := by
  cases h : s.reg p with
  | some c => rwa [DState.create_some h]
  | none =>
    rw [DState.create_none h]
    exact dinv_upd hs (fun _ h => h) (fun k => Chains.fresh_get k ▸ logged_own)

theorem dinv_applyROp {s : DState} (hs : DInv s) (p : Nat) (o : ROp) : DInv (s.applyROp p o).1 := by
  cases hc : s.reg p with
  | none =>
    cases o with
    | reg k h => rwa [DState.applyROp, DState.register_none k h hc]
    | unreg k h => rwa [DState.applyROp, DState.unregister_none k h hc]
  | some c =>
    have H := dinv_iff.1 hs p c hc
    cases o with
    | reg k h =>
      rw [DState.applyROp, DState.register_some k h hc]
      refine dinv_upd hs (List.subset_cons_self _ _)
        (Chains.forall_set (fun k' => (H k').mono (List.subset_cons_self _ _)) ⟨chainOK_cons h (H k).1, fun h' hm => ?_⟩)
      rcases List.mem_cons.mp hm with e | hm
      · cases e
        exact List.mem_cons_self
      · exact List.mem_cons_of_mem _ ((H k).2 h' hm)
    | unreg k h =>
      by_cases hm : Entry.h h ∈ c k
      · rw [DState.applyROp, DState.unregister_ok hc hm]
        exact dinv_upd hs (fun _ h => h)
          (Chains.forall_set H ⟨chainOK_erase h (H k).1, fun h' hm' => (H k).2 h' (List.mem_of_mem_erase hm')⟩)
      · rwa [DState.applyROp, DState.unregister_absent hc hm]

-- `bump` changes `calls` only: the two fields of `DInv (s.bump c)` are those of `DInv s` as they stand,
-- the structure itself is not, hence `⟨h.wf, h.log⟩` and not `h`
theorem dinv_stable : Stable DInv :=
  ⟨fun _ _ h => ⟨h.wf, h.log⟩, fun _ p o h => dinv_applyROp h p o, fun _ p h => dinv_create h p⟩

theorem run_dinv (beh : Beh) {s : DState} (hs : DInv s) (ops : List Op) : DInv (run beh s ops).1 :=
  run_inv beh (fun op _ => dinv_stable.at op.inst) hs

theorem DInv.chain {s : DState} (hs : DInv s) (p : Nat) (k : Kind) : Logged s.regLog p k (s.reg.chain p k) := by
  cases h : s.reg p with
  | some c => rw [Registry.chain_some h]; exact dinv_iff.1 hs p c h k
  | none => rw [Registry.chain_none h]; exact logged_own

end Disp
