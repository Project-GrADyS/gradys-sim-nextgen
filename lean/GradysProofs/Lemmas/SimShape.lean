import GradysProofs.Lemmas.SimLift
/-
  Exact shape of what each handler-level function appends to the trace.
-/
set_option linter.unusedSectionVars false

namespace Sim
variable {S σ : Type} [Scalar S]

def Obs.isRequestOf (n : NodeId) : Obs S → Prop
  | .request m _ _ => m = n
  | _ => False

theorem Obs.isRequestOf.eq {n : NodeId} {o : Obs S} (h : Obs.isRequestOf n o) :
    ∃ r ok, o = .request n r ok := by
  cases o with
  | request m r ok => obtain rfl : m = n := h; exact ⟨r, ok, rfl⟩
  | _ => cases h

theorem execReq_rtrace (cfg : Config S) (n : NodeId) (r : Request S) (w : World S σ) :
    (execReq cfg n r w).1.rtrace = w.rtrace := ((ReqFrame.prims cfg).execReq n r w).rtrace

theorem runProg_rtrace (cfg : Config S) (n : NodeId) (p : Prog S σ) (w : World S σ) :
    ∃ l, (runProg cfg n p w).1.rtrace = l ++ w.rtrace ∧ ∀ o ∈ l, Obs.isRequestOf n o := by
  induction p generalizing w with
  | done s => exact ⟨[], rfl, by simp⟩
  | req r k ih =>
    obtain ⟨l, hl, hq⟩ := ih (execReq cfg n r w).2 (log (.request n r (execReq cfg n r w).2) (execReq cfg n r w).1)
    refine ⟨l ++ [.request n r (execReq cfg n r w).2], ?_, ?_⟩
    · rw [runProg_req, hl]
      simp only [log, execReq_rtrace, List.append_assoc, List.singleton_append]
    · intro o ho
      rcases List.mem_append.mp ho with ho | ho
      · exact hq o ho
      · rw [List.mem_singleton.mp ho]; exact rfl

theorem callback_rtrace (cfg : Config S) (P : NodeId → Proto S σ) (n : NodeId) (cb : Callback S)
    (w : World S σ) :
    ∃ l, (callback cfg P n cb w).rtrace = l ++ .callback n cb (reportedTime cfg w) :: w.rtrace ∧
      ∀ o ∈ l, Obs.isRequestOf n o :=
  runProg_rtrace cfg n ((P n).react (w.pstate n) n (reportedTime cfg w) cb)
    (log (.callback n cb (reportedTime cfg w)) w)

theorem mobTick_rtrace (cfg : Config S) (w : World S σ) : (mobTick cfg w).rtrace = w.rtrace := by
  rw [mobTick_eq, sched_rtrace]
  exact rel_foldl (R := fun w w' => w'.rtrace = w.rtrace) (fun _ => rfl) (fun h1 h2 => h2.trans h1)
    (tickNode cfg) (fun _ _ => rfl) _ w

/-- A protocol callback observed while an event is executed is the one callback that event makes:
    `handle_timer` of a pending timer, `handle_packet` of a delivery, `handle_telemetry`. -/
theorem execEv_callback_origin (cfg : Config S) (P : NodeId → Proto S σ) (e : Ev (EvKind S))
    (w : World S σ) {n : NodeId} {cb : Callback S} {t : Int}
    (h : Obs.callback n cb t ∈ (execEv cfg P e w).rtrace) (hn : Obs.callback n cb t ∉ w.rtrace) :
    (∃ name id, cb = .timer name ∧ e.kind = .timerFire n name id ∧ (n, name, id) ∈ w.pending) ∨
    (∃ src msg, cb = .packet msg ∧ e.kind = .deliver n src msg) ∨
    (∃ p, cb = .telemetry p ∧ e.kind = .telemetry n p) := by
  have key : ∀ {n' : NodeId} {cb' : Callback S} {w' : World S σ},
      Obs.callback n cb t ∈ (callback cfg P n' cb' w').rtrace → w'.rtrace = w.rtrace → n' = n ∧ cb' = cb := by
    intro n' cb' w' hm hw'
    obtain ⟨l, hl, hq⟩ := callback_rtrace cfg P n' cb' w'
    rw [hl] at hm
    rcases List.mem_append.mp hm with hm | hm
    · obtain ⟨_, _, h⟩ := (hq _ hm).eq; cases h
    · rcases List.mem_cons.mp hm with hm | hm
      · injection hm with h1 h2 _; exact ⟨h1.symm, h2.symm⟩
      · rw [hw'] at hm; exact absurd hm hn
  revert h
  refine execEv_cases (motive := fun x => Obs.callback n cb t ∈ x.rtrace → _) cfg P e w
    (fun n' name id hk hp h => ?_) (fun _ _ _ _ _ h => absurd h hn)
    (fun dst src msg hk h => ?_) (fun _ h => ?_) (fun n' p hk h => ?_)
  · obtain ⟨rfl, rfl⟩ := key h rfl; exact Or.inl ⟨name, id, rfl, hk, hp⟩
  · obtain ⟨rfl, rfl⟩ := key h rfl; exact Or.inr (Or.inl ⟨src, msg, rfl, hk⟩)
  · rw [mobTick_rtrace] at h; exact absurd h hn
  · obtain ⟨rfl, rfl⟩ := key h rfl; exact Or.inr (Or.inr ⟨p, rfl, hk⟩)

theorem logAll_rtrace (f : String → Obs S) (hs : List String) (w : World S σ) :
    (logAll f hs w).rtrace = (hs.map f).reverse ++ w.rtrace := by
  induction hs generalizing w with
  | nil => rfl
  | cons h hs ih => rw [logAll_cons, ih, List.map_cons, List.reverse_cons, List.append_assoc]; rfl

theorem hooks_rtrace (cfg : Config S) (ts : Int) (w : World S σ) :
    (hooks cfg ts w).rtrace = (cfg.handlers.map (fun h => Obs.afterStep h w.iter ts)).reverse ++ w.rtrace :=
  logAll_rtrace _ _ w

theorem finalise_rtrace (cfg : Config S) (P : NodeId → Proto S σ) {w : World S σ} (hf : w.finalized = false) :
    (finalise cfg P w).rtrace =
      (cfg.handlers.map Obs.handlerFinal).reverse ++ (callbackAll cfg P .finish (List.range cfg.nNodes) w).rtrace := by
  rw [finalise_eq cfg P w hf]; exact logAll_rtrace _ _ _

end Sim
