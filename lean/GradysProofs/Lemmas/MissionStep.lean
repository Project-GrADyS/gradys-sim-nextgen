import GradysModel.Mission
/-
  What each operation of the mission plugin model does to a state whose fields are known
  (`s.mission = some m`, `s.wp = some i` with `i < m.length`): equations, no invariant.
-/
namespace Mission
variable {S : Type}

/-- the visiting order, as a function: where a mission of `n` waypoints goes from waypoint `i` when it
    moves one step in direction `rev` (`none`: the mission ends).  The bounce `n - 2` is subtraction in ℕ,
    which stops at 0: for `n ≤ 2` it is the `max(len − 2, 0)` of the repaired code (`bounceFloored_natCast`). -/
def next (loop : LoopMode) (n i : Nat) (rev : Bool) : Option (Nat × Bool) :=
  match loop with
  | .no => if i + 1 < n then some (i + 1, false) else none
  | .restart => some ((i + 1) % n, false)
  | .reverse =>
    if rev then (if 0 < i then some (i - 1, true) else some (0, false))
    else (if i + 1 < n then some (i + 1, false) else some (n - 2, true))

theorem next_spec {loop : LoopMode} {n i j : Nat} {rev r : Bool} (h : next loop n i rev = some (j, r))
    (hi : i < n) : j < n ∧ (loop ≠ .reverse → r = false) := by
  have hn : 0 < n := Nat.zero_lt_of_lt hi
  unfold next at h
  split at h
  · split at h
    · cases h; exact ⟨by assumption, fun _ => rfl⟩
    · cases h
  · cases h; exact ⟨Nat.mod_lt _ hn, fun _ => rfl⟩
  · refine ⟨?_, fun hl => absurd rfl hl⟩
    repeat' split at h
    all_goals cases h
    · exact Nat.lt_of_le_of_lt (Nat.sub_le i 1) hi
    · exact hn
    · assumption
    · exact Nat.sub_lt hn (by decide)

theorem pyGet_nonneg {α : Type} (l : List α) (w : Int) (h0 : 0 ≤ w) : pyGet l w = l[w.toNat]? := by
  unfold pyGet; rw [if_pos h0]

theorem pyGet_natCast {α : Type} (l : List α) (i : Nat) : pyGet l (i : Int) = l[i]? :=
  pyGet_nonneg l _ (Int.natCast_nonneg i)

theorem pyGet_pred {α : Type} (l : List α) (i : Nat) (h : 0 < i) : pyGet l ((i : Int) - 1) = l[i - 1]? := by
  rw [← pyGet_natCast, Int.natCast_sub h]; rfl

theorem bounceFloored_natCast (n : Nat) : bounceFloored (n : Int) = ((n - 2 : Nat) : Int) := by
  unfold bounceFloored; omega

variable {cfg : Config S} {s : State S} {m : List (V3 S)} {i : Nat}

theorem travel_idle (hw : s.wp = none) : travel s = (s, true) := by
  simp [travel, hw]

theorem travel_eq (hm : s.mission = some m) (hw : s.wp = some (i : Int)) (hi : i < m.length) :
    travel s = ({ s with log := .goto m[i] :: s.log }, true) := by
  simp [travel, hm, hw, pyGet_natCast, hi]

/-- `_progress_current_waypoint` is `next` on the index and the direction.  `hmode`: `next` follows the code
    only on states the plugin can be in, where outside REVERSE mode it is never reversed. -/
theorem progress_eq (hm : s.mission = some m) (hw : s.wp = some (i : Int)) (hi : i < m.length)
    (hmode : cfg.loop ≠ .reverse → s.reversed = false) :
    progress cfg s = match next cfg.loop m.length i s.reversed with
      | none => stopMission s
      | some (j, r) => { s with wp := some (j : Int), reversed := r } := by
  obtain ⟨_, _, rev, idle, log⟩ := s
  cases hm; cases hw
  cases rev with
  | false =>
    -- forwards: past the end iff `i` was the last index
    by_cases h1 : i + 1 < m.length
    · have hov : ¬ (m.length : Int) ≤ i + 1 := by omega
      have hmod : (i + 1) % m.length = i + 1 := Nat.mod_eq_of_lt h1
      cases hl : cfg.loop <;> simp [progress, progressWith, hasOverran, next, hov, h1, hmod]
    · have hov : (m.length : Int) ≤ i + 1 := by omega
      have hmod : (i + 1) % m.length = 0 := by rw [show i + 1 = m.length by omega, Nat.mod_self]
      cases hl : cfg.loop <;>
        simp [progress, progressWith, hasOverran, next, hov, h1, hl, hmod, stopMission, bounceFloored_natCast]
  | true =>
    -- backwards: only in REVERSE mode; below the start iff `i` was 0
    have hl : cfg.loop = .reverse := Decidable.byContradiction fun h => nomatch hmode h
    by_cases h0 : 0 < i
    · have hov : ¬ (i : Int) - 1 < 0 := by omega
      have hpred : ((i - 1 : Nat) : Int) = i - 1 := Int.natCast_sub h0
      simp [progress, progressWith, hasOverran, next, hl, hov, h0, hpred]
    · have hov : (i : Int) - 1 < 0 := by omega
      simp [progress, progressWith, hasOverran, next, hl, hov, h0]

/-- one waypoint step (`_progress_current_waypoint`, then `_travel_to_current_waypoint`), as the telemetry
    handler and `set_reversed` make it -/
theorem advance_eq (hm : s.mission = some m) (hw : s.wp = some (i : Int)) (hi : i < m.length)
    (hmode : cfg.loop ≠ .reverse → s.reversed = false) :
    (next cfg.loop m.length i s.reversed = none →
      outOf (travel (progress cfg s)) = (stopMission s, .ok)) ∧
    (∀ j r, next cfg.loop m.length i s.reversed = some (j, r) → ∃ p, m[j]? = some p ∧
      outOf (travel (progress cfg s)) =
        ({ s with wp := some (j : Int), reversed := r, log := .goto p :: s.log }, .ok)) := by
  rw [progress_eq hm hw hi hmode]
  refine ⟨fun hn => ?_, fun j r hn => ?_⟩
  · rw [hn, travel_idle rfl]; rfl
  · have hj := (next_spec hn hi).1
    rw [hn, travel_eq (s := { s with wp := some (j : Int), reversed := r }) hm rfl hj]
    exact ⟨m[j], List.getElem?_eq_getElem hj, rfl⟩

theorem outOf_ne_refused (x : State S × Bool) : (outOf x).2 ≠ .refused := by
  unfold outOf; cases x.2 <;> simp

theorem start_ne_refused (cfg : Config S) (s : State S) (m : List (V3 S)) : (start cfg s m).2 ≠ .refused := by
  unfold start; dsimp only; split <;> nofun

/-- a call that refuses under a guard `g`, handing back `s`, and otherwise takes a path `y` that never
    reports a refusal: it is refused exactly under `g`, and then nothing changed -/
theorem refused_of_guard {g : Prop} [Decidable g] {x y : State S × Out}
    (hx : x = if g then (s, .refused) else y) (hy : y.2 ≠ .refused) :
    (x.2 = .refused ↔ g) ∧ (x.2 = .refused → x.1 = s) := by
  subst hx
  split
  · exact ⟨⟨fun _ => ‹g›, fun _ => rfl⟩, fun _ => rfl⟩
  · exact ⟨⟨fun h => absurd h hy, fun h => absurd h ‹¬g›⟩, fun h => absurd h hy⟩

theorem start_eq (cfg : Config S) (s : State S) (hm : m ≠ []) : ∃ p, m[0]? = some p ∧
    start cfg s m = (⟨some m, some 0, false, false, .setSpeed cfg.speed :: .goto p :: s.log⟩, .ok) := by
  have h0 : 0 < m.length := List.length_pos_iff.mpr hm
  refine ⟨m[0], List.getElem?_eq_getElem h0, ?_⟩
  unfold start
  simp only [travel_eq (s := { s with mission := some m, reversed := false, idle := false, wp := some 0 })
    (i := 0) rfl rfl h0]

theorem setWaypoint_none (hm : s.mission = none) (i : Int) : setWaypoint s i = (s, .refused) := by
  simp [setWaypoint, hm]

theorem setWaypoint_some (hm : s.mission = some m) (i : Int) :
    setWaypoint s i =
      if i < 0 ∨ (m.length : Int) ≤ i then (s, .refused) else outOf (travel { s with wp := some i }) := by
  simp [setWaypoint, hm]

theorem setWaypoint_eq (hm : s.mission = some m) (hi : i < m.length) :
    ∃ p, m[i]? = some p ∧
      setWaypoint s (i : Int) = ({ s with wp := some (i : Int), log := .goto p :: s.log }, .ok) := by
  refine ⟨m[i], List.getElem?_eq_getElem hi, ?_⟩
  rw [setWaypoint_some hm, if_neg (by omega), travel_eq (s := { s with wp := some (i : Int) }) hm rfl hi]
  rfl

theorem setReversed_none (hm : s.mission = none) (b : Bool) :
    setReversed cfg s b = (s, .refused) := by
  simp [setReversed, setReversedWith, hm]

theorem setReversed_some (hm : s.mission = some m) (b : Bool) :
    setReversed cfg s b =
      if cfg.loop ≠ .reverse then (s, .refused)
      else if b = s.reversed then ({ s with reversed := b }, .ok)
      else outOf (travel (progress cfg { s with reversed := b })) := by
  -- the code tests `old != b` and has the branches the other way round
  simp only [setReversed, setReversedWith, hm, progress, bne_iff_ne, eq_comm (a := s.reversed), ite_not]

theorem telemetryB_none (hm : s.mission = none) (r : Bool) :
    telemetryB cfg s r = (s, .ok) := by
  simp [telemetryB, telemetryWith, hm]

theorem telemetryB_false (cfg : Config S) (s : State S) : telemetryB cfg s false = (s, .ok) := by
  unfold telemetryB telemetryWith; split <;> rfl

theorem telemetryB_true (hm : s.mission = some m) :
    telemetryB cfg s true = outOf (travel (progress cfg s)) := by
  simp [telemetryB, telemetryWith, hm, progress]

end Mission
