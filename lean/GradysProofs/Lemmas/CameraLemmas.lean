import GradysModel.Camera
/- Scalar-generic facts about the camera model (core Lean only). -/
namespace Camera
variable {S : Type} [Scalar S]

/-- The order facts the totality of `judge` rests on.  They are implied by "`le`/`lt` is a total
    preorder and `acos?` is defined on [-1, 1]" but are much weaker: nothing is asked of `le` away
    from the two constants, so IEEE doubles (NaN included: `min(1.0, nan) = 1.0` in Python's
    `min`) satisfy them as well. -/
class LawfulOrderScalar (S : Type) [Scalar S] : Prop where
  lt_le : ∀ a b : S, Scalar.lt a b = true → Scalar.le a b = true
  one_le_one : Scalar.le (Scalar.ofInt 1 : S) (Scalar.ofInt 1) = true
  negone_le_negone :
    Scalar.le (Scalar.neg (Scalar.ofInt 1) : S) (Scalar.neg (Scalar.ofInt 1)) = true
  negone_le_one : Scalar.le (Scalar.neg (Scalar.ofInt 1) : S) (Scalar.ofInt 1) = true
  /-- `math.acos` does not raise on [-1, 1] -/
  acos_dom : ∀ x : S, Scalar.le (Scalar.neg (Scalar.ofInt 1)) x = true →
    Scalar.le x (Scalar.ofInt 1) = true → (Scalar.acos? x).isSome = true

/-- `max(-1.0, min(1.0, d))` -/
def clamp (d : S) : S :=
  Scalar.max (Scalar.neg (Scalar.ofInt 1)) (Scalar.min (Scalar.ofInt 1) d)

/-- `relative_vector` -/
def rel (self other : V3 S) : V3 S :=
  ⟨Scalar.sub other.x self.x, Scalar.sub other.y self.y, Scalar.sub other.z self.z⟩

/-- `distance` -/
def cdist (self other : V3 S) : S :=
  let r := rel self other
  Scalar.sqrt (Scalar.add (Scalar.add (Scalar.sq r.x) (Scalar.sq r.y)) (Scalar.sq r.z))

/-- `dot_product` (with the normalisation by `distance`, in the source's operation order) -/
def cdot (c : Config S) (self other : V3 S) : S :=
  let cv := axis c
  let r := rel self other
  let d := cdist self other
  Scalar.add (Scalar.add (Scalar.mul cv.x (Scalar.div r.x d)) (Scalar.mul cv.y (Scalar.div r.y d)))
    (Scalar.mul cv.z (Scalar.div r.z d))

/-- `judge` in terms of its named pieces, for every value `dot` may take -/
def judgeWith (c : Config S) (distance dot : S) : Verdict :=
  if Scalar.gt distance c.reach then .outOfReach
  else if Scalar.gt distance (Scalar.ofInt 0) then
    match Scalar.acos? (clamp dot) with
    | none => .error
    | some ac =>
      if Scalar.gt (Scalar.sub ac c.tol) (Scalar.radians c.thetaDeg) then .outOfAngle else .detected
  else .detected

/-- the pinned decision: `math.acos(dot_product)` without the clamp, so that `judgeWith c d dot` is
    `judgePinnedWith c d (clamp dot)` by `rfl`.  (Its binders repeat the section's; nothing hangs on it.) -/
def judgePinnedWith {S : Type} [Scalar S] (c : Config S) (distance dot : S) : Verdict :=
  if Scalar.gt distance c.reach then .outOfReach
  else if Scalar.gt distance (Scalar.ofInt 0) then
    match Scalar.acos? dot with
    | none => .error
    | some ac =>
      if Scalar.gt (Scalar.sub ac c.tol) (Scalar.radians c.thetaDeg) then .outOfAngle else .detected
  else .detected

variable {c : Config S} {distance dot : S}

theorem judgeWith_apex (hr : Scalar.gt distance c.reach = false)
    (h0 : Scalar.gt distance (Scalar.ofInt 0) = false) : judgeWith c distance dot = .detected := by
  unfold judgeWith
  rw [hr, h0]
  rfl

theorem acos_none_of_judgePinnedWith_error (h : judgePinnedWith c distance dot = .error) :
    Scalar.acos? dot = none := by
  cases ha : Scalar.acos? dot with
  | none => rfl
  | some ac =>
    unfold judgePinnedWith at h
    rw [ha] at h
    dsimp only at h
    repeat' split at h
    all_goals cases h

theorem judgePinnedWith_error_iff (hr : Scalar.gt distance c.reach = false)
    (h0 : Scalar.gt distance (Scalar.ofInt 0) = true) :
    judgePinnedWith c distance dot = .error ↔ Scalar.acos? dot = none := by
  refine ⟨acos_none_of_judgePinnedWith_error, fun h => ?_⟩
  unfold judgePinnedWith
  rw [hr, h0, h]
  rfl

theorem judge_eq (c : Config S) (self other : V3 S) :
    judge c self other = judgeWith c (cdist self other) (cdot c self other) := rfl

theorem judge_congr_rel {c : Config S} {a b a' b' : V3 S} (h : rel a b = rel a' b') :
    judge c a b = judge c a' b' := by
  simp only [judge_eq, cdot, cdist, h]

theorem clamp_bounds [LawfulOrderScalar S] (d : S) :
    Scalar.le (Scalar.neg (Scalar.ofInt 1)) (clamp d) = true ∧
    Scalar.le (clamp d) (Scalar.ofInt 1) = true := by
  open LawfulOrderScalar in
  unfold clamp Scalar.max Scalar.min
  split
  · split
    · exact ⟨lt_le _ _ ‹_›, lt_le _ _ ‹_›⟩
    · exact ⟨negone_le_negone, negone_le_one⟩
  · split
    · exact ⟨negone_le_one, one_le_one⟩
    · exact ⟨negone_le_negone, negone_le_one⟩

theorem acos_clamp_isSome [LawfulOrderScalar S] (d : S) :
    (Scalar.acos? (clamp d)).isSome = true :=
  LawfulOrderScalar.acos_dom _ (clamp_bounds d).1 (clamp_bounds d).2

theorem judgeWith_ne_error [LawfulOrderScalar S] (c : Config S) (distance dot : S) :
    judgeWith c distance dot ≠ .error := fun h =>
  absurd (acos_none_of_judgePinnedWith_error (c := c) h) (Option.isSome_iff_ne_none.mp (acos_clamp_isSome dot))

theorem judge_ne_error [LawfulOrderScalar S] (c : Config S) (self other : V3 S) :
    judge c self other ≠ .error :=
  judgeWith_ne_error c _ _

theorem takePicture_eq (c : Config S) (selfId : Nat) (self : V3 S) (nodes : List (Nat × V3 S))
    (hne : ∀ other, judge c self other ≠ .error) :
    takePicture c selfId self nodes
      = some (nodes.filter (fun p => p.1 != selfId && decide (judge c self p.2 = .detected))) := by
  -- the loop of `take_picture` only ever appends the detected nodes to what it has
  have h : ∀ (l acc : List (Nat × V3 S)),
      l.foldlM (fun acc p => match judge c self p.2 with
        | .detected => some (acc ++ [p])
        | .error => none
        | _ => some acc) acc = some (acc ++ l.filter (fun p => decide (judge c self p.2 = .detected))) := by
    intro l
    induction l with
    | nil => simp
    | cons p l ih =>
      intro acc
      rw [List.foldlM_cons, List.filter_cons]
      cases hj : judge c self p.2 with
      | error => exact absurd hj (hne _)
      | detected | outOfReach | outOfAngle => simp [ih]
  exact (h _ []).trans (by simp [List.filter_filter, Bool.and_comm])

theorem Fleet.takePicture_eq (f : Fleet S) (i : Nat) (self : V3 S) (nodes : List (Nat × V3 S)) :
    f.takePicture i self nodes = (f.view i).bind fun v => Camera.takePicture v.2 v.1 self nodes := by
  unfold Fleet.takePicture
  cases f.view i <;> rfl

omit [Scalar S] in
/-- `change_facing` on camera `i` leaves what ANY other camera `j` works with untouched — also when
    `j` holds the very configuration object `i` writes into: `j` reads only the reach from it. -/
theorem Fleet.view_changeFacing_ne (f : Fleet S) (i : Nat) (elev rot : S) (j : Nat) (hj : j ≠ i) :
    (f.changeFacing i elev rot).view j = f.view j := by
  unfold Fleet.changeFacing
  cases f.cams[i]? with
  | none => rfl
  | some cam =>
    simp only [Fleet.view, List.getElem?_modify, if_neg (Ne.symm hj), Option.map_eq_map, Option.map_id_fun', id]
    cases f.cams[j]? with
    | none => rfl
    | some camj =>
      dsimp only
      cases f.confs[camj.conf]? with
      | none => rfl
      | some c =>
        dsimp only [Option.map_some]
        split <;> rfl

omit [Scalar S] in
theorem Fleet.view_changeFacing_eq (f : Fleet S) (i : Nat) (elev rot : S) (selfId : Nat) (c : Config S)
    (h : f.view i = some (selfId, c)) :
    (f.changeFacing i elev rot).view i
      = some (selfId, { c with elevationDeg := elev, rotationDeg := rot }) := by
  unfold Fleet.changeFacing
  cases hi : f.cams[i]? with
  | none => simp [Fleet.view, hi] at h
  | some cam =>
    cases hc : f.confs[cam.conf]? with
    | none => simp [Fleet.view, hi, hc] at h
    | some c0 =>
      simp only [Fleet.view, hi, hc, Option.some.injEq, Prod.mk.injEq] at h
      obtain ⟨h1, h2⟩ := h
      subst h1 h2
      simp [Fleet.view, hi, hc]

omit [Scalar S] in
theorem Fleet.view_construct (f : Fleet S) (selfId k : Nat) (c : Config S) (hk : f.confs[k]? = some c) :
    (f.construct selfId k).view f.cams.length = some (selfId, c) ∧
    ∀ j, j < f.cams.length → (f.construct selfId k).view j = f.view j := by
  unfold Fleet.construct
  rw [hk]
  refine ⟨?_, fun j hj => ?_⟩
  · simp [Fleet.view, hk]
  · simp [Fleet.view, List.getElem?_append_left hj]

end Camera
