import GradysProofs.Lemmas.SimInv
/-
  The pending-timer invariant (C07): identifiers are fresh and unique per node, every pending
  timer has its event queued, timer events are pairwise distinct.
-/
set_option linter.unusedSectionVars false

namespace Sim
variable {S σ : Type} [Scalar S]

def _root_.EvKind.isTimer : EvKind S → Prop
  | .timerFire _ _ _ => True
  | _ => False

structure PInv (w : World S σ) : Prop where
  id_lt : ∀ p ∈ w.pending, p.2.2 < w.nextTimer p.1
  nodup : w.pending.Nodup
  ev_lt : ∀ e ∈ w.raccepted, ∀ n name id, e.kind = .timerFire n name id → id < w.nextTimer n
  ev_unique : w.raccepted.Pairwise
    (fun a b => ∀ n na nb id, a.kind = .timerFire n na id → b.kind = .timerFire n nb id → False)
  queued : ∀ p ∈ w.pending, ∃ e ∈ w.loop.queue, e.kind = .timerFire p.1 p.2.1 p.2.2

theorem PInv.congr {w w' : World S σ} (h : PInv w) (h1 : w'.pending = w.pending)
    (h2 : w'.nextTimer = w.nextTimer) (h3 : w'.raccepted = w.raccepted)
    (h4 : w'.loop.queue = w.loop.queue) : PInv w' := by
  constructor
  · rw [h1, h2]; exact h.id_lt
  · rw [h1]; exact h.nodup
  · rw [h2, h3]; exact h.ev_lt
  · rw [h3]; exact h.ev_unique
  · rw [h1, h4]; exact h.queued

theorem PInv.sched {w : World S σ} (h : PInv w) (ts : Int) {k : EvKind S} (hk : ¬ k.isTimer) :
    PInv (sched ts k w) := by
  refine ⟨h.id_lt, h.nodup, ?_, List.pairwise_cons.mpr ⟨?_, h.ev_unique⟩, ?_⟩
  · intro x hx n name id hkx
    rcases List.mem_cons.mp hx with rfl | hx
    · exact absurd (show k.isTimer from (show k = _ from hkx) ▸ trivial) hk
    · exact h.ev_lt x hx n name id hkx
  · intro b _ n na nb id hka _
    exact hk ((show k = _ from hka) ▸ trivial)
  · intro p hp
    obtain ⟨x, hx, hkx⟩ := h.queued p hp
    exact ⟨x, mem_insertEv.mpr (Or.inr hx), hkx⟩

/-- an accepted `set_timer`: the node's next identifier is fresh -/
theorem PInv.arm {w : World S σ} (h : PInv w) (n : NodeId) (name : String) (at_ : Int) :
    PInv (arm n name at_ w) := by
  have hmono : ∀ m, w.nextTimer m ≤ upd w.nextTimer n (w.nextTimer n + 1) m := by
    intro m
    by_cases hm : m = n
    · subst hm; rw [upd_self]; omega
    · rw [upd_ne _ _ _ hm]; exact Nat.le_refl _
  have hnew : w.nextTimer n < upd w.nextTimer n (w.nextTimer n + 1) n := by rw [upd_self]; omega
  constructor
  · intro p hp
    rcases List.mem_cons.mp hp with rfl | hp
    · exact hnew
    · exact Nat.lt_of_lt_of_le (h.id_lt p hp) (hmono p.1)
  · refine List.nodup_cons.mpr ⟨fun hm => ?_, h.nodup⟩
    exact Nat.lt_irrefl _ (h.id_lt _ hm)
  · intro e he m nm id hk
    rcases List.mem_cons.mp he with rfl | he
    · cases hk
      exact hnew
    · exact Nat.lt_of_lt_of_le (h.ev_lt e he m nm id hk) (hmono m)
  · refine List.pairwise_cons.mpr ⟨?_, h.ev_unique⟩
    intro b hb m na nb id hk1 hk2
    cases hk1
    exact Nat.lt_irrefl _ (h.ev_lt b hb n nb (w.nextTimer n) hk2)
  · intro p hp
    rcases List.mem_cons.mp hp with rfl | hp
    · exact ⟨_, mem_insertEv.mpr (Or.inl rfl), rfl⟩
    · obtain ⟨x, hx, hk⟩ := h.queued p hp
      exact ⟨x, mem_insertEv.mpr (Or.inr hx), hk⟩

theorem PInv.prims (cfg : Config S) : Prims (σ := σ) cfg (Keeps PInv) where
  refl := Keeps.refl
  trans := Keeps.trans
  arm n name at_ _ _ h := h.arm n name at_
  disarm _ _ _ h :=
    ⟨fun p hp => h.id_lt p (mem_disarm.mp hp).1, h.nodup.filter _, h.ev_lt, h.ev_unique,
     fun p hp => h.queued p (mem_disarm.mp hp).1⟩
  deliver _ _ _ _ h := h.sched _ not_false
  draw _ _ h := h.congr rfl rfl rfl rfl
  inert _ _ _ _ h := h.congr rfl rfl rfl rfl

theorem PInv.lifecycle (cfg : Config S) : Lifecycle (σ := σ) cfg (Keeps PInv) :=
  (PInv.prims cfg).lifecycle fun _ _ _ _ _ _ h => h.congr rfl rfl rfl rfl

theorem PInv.mobTick {cfg : Config S} {w : World S σ} (h : PInv w) : PInv (mobTick cfg w) :=
  (PInv.lifecycle cfg).mobTick
    ((PInv.lifecycle cfg).tickNode (fun _ _ h => h.congr rfl rfl rfl rfl) (fun _ _ _ h => h.sched _ not_false))
    (fun _ h => h.sched _ not_false) w h

/-- Popping the head and executing it.  Between the pop and the removal of the entry the popped timer
    is pending without a queued event; every other pending timer keeps its event, because pending
    entries are pairwise distinct. -/
theorem PInv.execEv_popped {cfg : Config S} (P : NodeId → Proto S σ) {e : Ev (EvKind S)}
    {rest : List (Ev (EvKind S))} {w : World S σ} (h : PInv w) (hq : w.loop.queue = e :: rest) :
    PInv (execEv cfg P e (popped e rest w)) := by
  have hbase : ∀ (pend : List (NodeId × String × Nat)), pend.Nodup → (∀ p ∈ pend, p ∈ w.pending) →
      (∀ p ∈ pend, e.kind ≠ .timerFire p.1 p.2.1 p.2.2) →
      PInv { popped e rest w with pending := pend } := by
    intro pend hnd hsub hne
    refine ⟨fun p hp => h.id_lt p (hsub p hp), hnd, h.ev_lt, h.ev_unique, fun p hp => ?_⟩
    obtain ⟨x, hx, hk⟩ := h.queued p (hsub p hp)
    rw [hq] at hx
    rcases List.mem_cons.mp hx with rfl | hx
    · exact absurd hk (hne p hp)
    · exact ⟨x, hx, hk⟩
  have hall : (∀ n name id, e.kind = .timerFire n name id → (n, name, id) ∉ w.pending) →
      PInv (popped e rest w) := fun hno =>
    hbase w.pending h.nodup (fun _ hp => hp) (fun p hp hk => hno _ _ _ hk hp)
  refine execEv_cases cfg P e _ (fun n name id hk _ => ?_) (fun _ _ _ hk hno => ?_)
    (fun dst _ msg hk => (PInv.lifecycle cfg).callback P dst _ _ (hall (fun _ _ _ hk' => ?_)))
    (fun hk => (hall (fun _ _ _ hk' => ?_)).mobTick)
    (fun n p hk => (PInv.lifecycle cfg).callback P n _ _ (hall (fun _ _ _ hk' => ?_)))
  · refine (PInv.lifecycle cfg).callback P n _ _ (hbase _ (h.nodup.erase _) (fun _ hp => List.mem_of_mem_erase hp) ?_)
    intro p hp hk'
    rw [hk] at hk'
    injection hk' with h1 h2 h3
    exact (h.nodup.mem_erase_iff.mp hp).1 (Prod.ext h1.symm (Prod.ext h2.symm h3.symm))
  · refine hall (fun n' name' id' hk' => ?_)
    rw [hk] at hk'
    cases hk'
    exact hno
  · rw [hk] at hk'; cases hk'
  · rw [hk] at hk'; cases hk'
  · rw [hk] at hk'; cases hk'

theorem init_pinv (cfg : Config S) (P : NodeId → Proto S σ) : PInv (init cfg P) :=
  init_ind (by constructor <;> simp [init0]) (fun h0 => h0.sched _ not_false)

theorem reachableT_pinv {cfg : Config S} {P : NodeId → Proto S σ} {w : World S σ}
    (h : ReachableT cfg P w) : PInv w :=
  (PInv.lifecycle cfg).reachableT (init_pinv cfg P) (fun _ _ _ hw hq _ => hw.execEv_popped P hq) h

theorem reachable_pinv {cfg : Config S} {P : NodeId → Proto S σ} {w : World S σ}
    (h : Reachable cfg P w) : PInv w := reachableT_pinv h.toT

theorem initWith_pinv (cfg : Config S) (P : NodeId → Proto S σ) (pre : List (NodeId × Prog S σ)) :
    PInv (initWith cfg P pre) := reachable_pinv (reachable_initWith cfg P pre)

theorem queue_timer_unique {w : World S σ} (hw : WInv w) (hp : PInv w) :
    w.loop.queue.Pairwise
      (fun a b => ∀ n na nb id, a.kind = .timerFire n na id → b.kind = .timerFire n nb id → False) := by
  -- the relation is symmetric, so it passes from the accepted events to the permutation `rexecuted ++ queue`
  refine (List.pairwise_append.mp ((List.Perm.pairwise_iff ?_ hw.perm).mpr hp.ev_unique)).2.1
  intro a b hab n na nb id h1 h2
  exact hab n nb na id h2 h1

end Sim
