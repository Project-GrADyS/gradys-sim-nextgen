import GradysProofs.Lemmas.SimBase
/-
  How a fact is carried through the simulator: a relation `R` on worlds closed under the fields of one of
  the structures below holds from `w` to `f w` for the functions `f` of the model named at the structure.
  With them the two frame relations the principles themselves need: `ReqFrame` (what a request leaves
  alone: where a frame relation such as `SameFlags` or `Ext` gets its field `req`) and `SameFlags` (what
  everything but the lifecycle leaves alone, which the step anatomy `step_keeps` needs); `Ext` is in
  Lemmas/SimInv.lean, `MediumFrame` in Lemmas/Medium.lean.  Last, the induction over the worlds a driver
  reaches.

  Binders of the structure fields: an update that is a function of the model takes the world last, as the
  function does (`arm`, `req`, `hook`); a bare record update takes the world first and then the new field
  values (`draw`, `inert`, `ret`, `flags`), so that `{ w with … }` reads in the order of the binders.
-/
set_option linter.unusedSectionVars false

namespace Sim
variable {S σ : Type} [Scalar S] {cfg : Config S} {R : World S σ → World S σ → Prop}

theorem rel_foldl (refl : ∀ w, R w w) (trans : ∀ {a b c}, R a b → R b c → R a c) {α : Type}
    (f : World S σ → α → World S σ) (hf : ∀ w a, R w (f w a)) (l : List α) (w : World S σ) :
    R w (l.foldl f w) := by
  induction l generalizing w with
  | nil => exact refl w
  | cons a l ih => exact trans (hf w a) (ih _)

/-- the same for a relation between two runs -/
theorem rel_foldl₂ {α β : Type} {R : β → β → Prop} {f g : β → α → β}
    (h : ∀ a {b₁ b₂}, R b₁ b₂ → R (f b₁ a) (g b₂ a)) (l : List α) {b₁ b₂ : β} (hr : R b₁ b₂) :
    R (l.foldl f b₁) (l.foldl g b₂) := by
  induction l generalizing b₁ b₂ with
  | nil => exact hr
  | cons a l ih => exact ih (h a hr)

/-- an invariant read as a relation, so that the closure structures below apply to it -/
def Keeps (I : World S σ → Prop) (w w' : World S σ) : Prop := I w → I w'

theorem Keeps.refl {I : World S σ → Prop} (w : World S σ) : Keeps I w w := id

theorem Keeps.trans {I : World S σ → Prop} {a b c : World S σ} (f : Keeps I a b) (g : Keeps I b c) :
    Keeps I a c := g ∘ f

/-- the updates of the communication handler: `R` then holds along `transmit` and `broadcastTo` -/
structure Medium (cfg : Config S) (R : World S σ → World S σ → Prop) : Prop where
  refl : ∀ w, R w w
  trans : ∀ {a b c}, R a b → R b c → R a c
  deliver : ∀ dst src msg w, R w (sched (deliverTime cfg w) (.deliver dst src msg) w)
  draw : ∀ w drawIdx, R w { w with drawIdx }

namespace Medium
variable (h : Medium cfg R)
include h

theorem transmit (src dst : NodeId) (msg : String) (w : World S σ) : R w (transmit cfg src dst msg w) := by
  rw [transmit_eq]
  split
  · exact h.trans (h.draw w _) (h.deliver dst src msg _)
  · exact h.draw w _

theorem broadcastTo (src : NodeId) (msg : String) (dsts : List NodeId) (w : World S σ) :
    R w (broadcastTo cfg src msg dsts w) := by
  induction dsts generalizing w with
  | nil => exact h.refl w
  | cons d ds ih =>
    rw [broadcastTo_cons]
    split
    · exact ih w
    · exact h.trans (h.transmit src d msg w) (ih _)

end Medium

/-- with the updates of the timer handler and the fields the other commands write: `R` holds along `execReq` -/
structure Prims (cfg : Config S) (R : World S σ → World S σ → Prop) : Prop extends Medium cfg R where
  arm : ∀ n name at_ w, w.loop.now ≤ at_ → R w (arm n name at_ w)
  disarm : ∀ n name w, R w (disarm n name w)
  /-- fields that only the medium's range test and the mobility update read -/
  inert : ∀ w target speed range, R w { w with target, speed, range }

namespace Prims
variable (h : Prims cfg R)
include h

theorem execReq (n : NodeId) (r : Request S) (w : World S σ) : R w (execReq cfg n r w).1 :=
  execReq_cases (motive := fun _ x _ => R w x) cfg n w (fun _ _ _ => h.refl w)
    (fun name at_ => h.arm n name at_ w) (fun name => h.disarm n name w)
    (fun msg d _ _ _ => h.transmit n d.toNat msg w) (fun msg => h.broadcastTo n msg _ w)
    (fun _ target speed range _ => h.inert w target speed range) r

end Prims

/-- the fields no request writes -/
structure ReqFrame (w w' : World S σ) : Prop where
  now : w'.loop.now = w.loop.now
  rexecuted : w'.rexecuted = w.rexecuted
  iter : w'.iter = w.iter
  initialized : w'.initialized = w.initialized
  finalized : w'.finalized = w.finalized
  rtrace : w'.rtrace = w.rtrace
  pos : w'.pos = w.pos
  pstate : w'.pstate = w.pstate

theorem ReqFrame.prims (cfg : Config S) : Prims (σ := σ) cfg ReqFrame where
  refl _ := ⟨rfl, rfl, rfl, rfl, rfl, rfl, rfl, rfl⟩
  trans h1 h2 := ⟨h2.now.trans h1.now, h2.rexecuted.trans h1.rexecuted, h2.iter.trans h1.iter,
    h2.initialized.trans h1.initialized, h2.finalized.trans h1.finalized, h2.rtrace.trans h1.rtrace,
    h2.pos.trans h1.pos, h2.pstate.trans h1.pstate⟩
  arm _ _ _ _ _ := ⟨rfl, rfl, rfl, rfl, rfl, rfl, rfl, rfl⟩
  disarm _ _ _ := ⟨rfl, rfl, rfl, rfl, rfl, rfl, rfl, rfl⟩
  deliver _ _ _ _ := ⟨rfl, rfl, rfl, rfl, rfl, rfl, rfl, rfl⟩
  draw _ _ := ⟨rfl, rfl, rfl, rfl, rfl, rfl, rfl, rfl⟩
  inert _ _ _ _ := ⟨rfl, rfl, rfl, rfl, rfl, rfl, rfl, rfl⟩

def Obs.isHook : Obs S → Bool
  | .handlerInit _ | .afterStep _ _ _ | .handlerFinal _ => true
  | _ => false

/-- `R` holds along `runProg`, `callback`, `callbackAll` and `logAll`, and with the few further updates
    they take as premises along `mobTick` and `execEv`.  `req` comes from a `Prims` instance: by
    `Prims.lifecycle` for an invariant, through `(ReqFrame.prims cfg).execReq` for a relation of unchanged fields. -/
structure Handler (cfg : Config S) (R : World S σ → World S σ → Prop) : Prop where
  refl : ∀ w, R w w
  trans : ∀ {a b c}, R a b → R b c → R a c
  req : ∀ n r w, R w (log (.request n r (execReq cfg n r w).2) (execReq cfg n r w).1)
  cb : ∀ n c w, R w (log (.callback n c (reportedTime cfg w)) w)
  ret : ∀ w pstate, R w { w with pstate }
  /-- only for the handlers' own observations: a relation that says something about the callback or
      request observations made meanwhile (`Ext`: each reports the current time) would not hold along the
      logging of an arbitrary one -/
  hook : ∀ o w, Obs.isHook o = true → R w (log o w)

namespace Handler
variable (h : Handler cfg R)
include h

theorem runProg (n : NodeId) (p : Prog S σ) (w : World S σ) : R w (runProg cfg n p w).1 := by
  induction p generalizing w with
  | done s => exact h.refl w
  | req r k ih => exact h.trans (h.req n r w) (ih _ _)

theorem callback (P : NodeId → Proto S σ) (n : NodeId) (c : Callback S) (w : World S σ) :
    R w (callback cfg P n c w) := by
  rw [callback_eq]
  exact h.trans (h.trans (h.cb n c w) (h.runProg n _ _)) (h.ret _ _)

theorem foldl {α : Type} (f : World S σ → α → World S σ) (hf : ∀ w a, R w (f w a)) (l : List α)
    (w : World S σ) : R w (l.foldl f w) := rel_foldl h.refl h.trans f hf l w

theorem callbackAll (P : NodeId → Proto S σ) (c : Callback S) (ns : List NodeId) (w : World S σ) :
    R w (callbackAll cfg P c ns w) :=
  h.foldl _ (fun w n => h.callback P n c w) ns w

theorem logAll (f : String → Obs S) (hf : ∀ s, Obs.isHook (f s) = true) (hs : List String) (w : World S σ) :
    R w (logAll f hs w) :=
  h.foldl _ (fun w s => h.hook _ w (hf s)) hs w

theorem tickNode (move : ∀ w pos, R w { w with pos })
    (tel : ∀ w n p, R w (sched w.loop.now (.telemetry n p) w)) (w : World S σ) (n : NodeId) :
    R w (Sim.tickNode cfg w n) := h.trans (move w _) (tel _ n _)

theorem mobTick (node : ∀ w n, R w (Sim.tickNode cfg w n))
    (next : ∀ w, R w (sched (w.loop.now + cfg.dt) .mobTick w)) (w : World S σ) : R w (Sim.mobTick cfg w) := by
  rw [mobTick_eq]
  exact h.trans (h.foldl (Sim.tickNode cfg) node _ w) (next _)

theorem execEv (erase : ∀ w x, R w { w with pending := w.pending.erase x }) (tick : ∀ w, R w (Sim.mobTick cfg w))
    (P : NodeId → Proto S σ) (e : Ev (EvKind S)) (w : World S σ) : R w (execEv cfg P e w) :=
  execEv_cases cfg P e w (fun n _ _ _ _ => h.trans (erase w _) (h.callback P n _ _))
    (fun _ _ _ _ _ => h.refl w) (fun dst _ _ _ => h.callback P dst _ w) (fun _ => tick w)
    (fun n _ _ => h.callback P n _ w)

end Handler

/-- with the writes of the flags and the counter: `R` holds along `initialise`, `prep`, `finalise` and `hooks`;
    an invariant `I` with `Lifecycle cfg (Keeps I)` holds wherever a driver gets once the pop with `execEv`
    keeps it (`Lifecycle.reachableT`) -/
structure Lifecycle (cfg : Config S) (R : World S σ → World S σ → Prop) : Prop extends Handler cfg R where
  flags : ∀ w initialized finalized iter, R w { w with initialized, finalized, iter }

namespace Lifecycle
variable (h : Lifecycle cfg R)
include h

theorem initialise (P : NodeId → Proto S σ) (w : World S σ) : R w (initialise cfg P w) := by
  rw [initialise_eq]
  exact h.trans (h.flags w true w.finalized w.iter)
    (h.trans (h.logAll .handlerInit (fun _ => rfl) _ _) (h.callbackAll P .initialize _ _))

theorem prep (P : NodeId → Proto S σ) (w : World S σ) : R w (prep cfg P w) :=
  prep_cases cfg P w (fun _ => h.refl w) (fun _ => h.initialise P w)

theorem finalise (P : NodeId → Proto S σ) (w : World S σ) : R w (finalise cfg P w) := by
  cases hf : w.finalized with
  | true => rw [finalise_of_finalized cfg P hf]; exact h.refl w
  | false =>
    rw [finalise_eq cfg P w hf]
    exact h.trans (h.callbackAll P .finish _ w)
      (h.trans (h.logAll .handlerFinal (fun _ => rfl) _ _) (h.flags _ _ true _))

theorem hooks (ts : Int) (w : World S σ) : R w (hooks cfg ts w) :=
  h.trans (h.logAll _ (fun _ => rfl) _ w) (h.flags _ _ _ _)

theorem keeps {I : World S σ → Prop} (f : ∀ {w w'}, R w w' → I w → I w') : Lifecycle cfg (Keeps I) where
  refl := Keeps.refl
  trans := Keeps.trans
  req n r w := f (h.req n r w)
  cb n c w := f (h.cb n c w)
  ret w p := f (h.ret w p)
  hook o w ho := f (h.hook o w ho)
  flags w i fn k := f (h.flags w i fn k)

end Lifecycle

theorem Prims.lifecycle {I : World S σ → Prop} (h : Prims cfg (Keeps I))
    (quiet : ∀ w rtrace pstate initialized finalized iter,
      I w → I { w with rtrace, pstate, initialized, finalized, iter }) : Lifecycle cfg (Keeps I) where
  refl := Keeps.refl
  trans := Keeps.trans
  req n r w hw := quiet _ (_ :: _) _ _ _ _ (h.execReq n r w hw)
  cb _ _ w hw := quiet w (_ :: _) _ _ _ _ hw
  ret w p hw := quiet w _ p _ _ _ hw
  hook _ w _ hw := quiet w (_ :: _) _ _ _ _ hw
  flags w i f k hw := quiet w _ _ i f k hw

theorem Lifecycle.and {I J : World S σ → Prop} (hI : Lifecycle cfg (Keeps I)) (hJ : Lifecycle cfg (Keeps J)) :
    Lifecycle cfg (Keeps fun w => I w ∧ J w) where
  refl := Keeps.refl
  trans := Keeps.trans
  req n r w hw := ⟨hI.req n r w hw.1, hJ.req n r w hw.2⟩
  cb n c w hw := ⟨hI.cb n c w hw.1, hJ.cb n c w hw.2⟩
  ret w p hw := ⟨hI.ret w p hw.1, hJ.ret w p hw.2⟩
  hook o w ho hw := ⟨hI.hook o w ho hw.1, hJ.hook o w ho hw.2⟩
  flags w i f k hw := ⟨hI.flags w i f k hw.1, hJ.flags w i f k hw.2⟩

theorem pos_kept (cfg : Config S) : Lifecycle (σ := σ) cfg (fun w w' => w'.pos = w.pos) where
  refl _ := rfl
  trans h1 h2 := h2.trans h1
  req n r w := ((ReqFrame.prims cfg).execReq n r w).pos
  cb _ _ _ := rfl
  ret _ _ := rfl
  hook _ _ _ := rfl
  flags _ _ _ _ := rfl

/-- the counter and the two flags: written by initialisation, finalisation and the after-step hooks only -/
structure SameFlags (w w' : World S σ) : Prop where
  iter : w'.iter = w.iter
  initialized : w'.initialized = w.initialized
  finalized : w'.finalized = w.finalized

theorem SameFlags.trans {a b c : World S σ} (h1 : SameFlags a b) (h2 : SameFlags b c) : SameFlags a c :=
  ⟨h2.iter.trans h1.iter, h2.initialized.trans h1.initialized, h2.finalized.trans h1.finalized⟩

theorem SameFlags.handler (cfg : Config S) : Handler (σ := σ) cfg SameFlags where
  refl _ := ⟨rfl, rfl, rfl⟩
  trans := SameFlags.trans
  req n r w :=
    have f := (ReqFrame.prims cfg).execReq n r w
    ⟨f.iter, f.initialized, f.finalized⟩
  cb _ _ _ := ⟨rfl, rfl, rfl⟩
  ret _ _ := ⟨rfl, rfl, rfl⟩
  hook _ _ _ := ⟨rfl, rfl, rfl⟩

/-- `SameFlags` is a `Handler`, no `Lifecycle`, since the lifecycle writes the flags: the four lemmas under
    this one state it from the world with that one write made -/
theorem execEv_flags (cfg : Config S) (P : NodeId → Proto S σ) (e : Ev (EvKind S)) (w : World S σ) :
    SameFlags w (execEv cfg P e w) :=
  (SameFlags.handler cfg).execEv (fun _ _ => ⟨rfl, rfl, rfl⟩)
    ((SameFlags.handler cfg).mobTick (fun _ _ => ⟨rfl, rfl, rfl⟩) (fun _ => ⟨rfl, rfl, rfl⟩)) P e w

theorem initialise_flags (cfg : Config S) (P : NodeId → Proto S σ) (w : World S σ) :
    SameFlags { w with initialized := true } (initialise cfg P w) :=
  ((SameFlags.handler cfg).logAll Obs.handlerInit (fun _ => rfl) cfg.handlers { w with initialized := true }).trans
    ((SameFlags.handler cfg).callbackAll P .initialize (List.range cfg.nNodes) _)

theorem prep_flags (cfg : Config S) (P : NodeId → Proto S σ) (w : World S σ) :
    SameFlags { w with initialized := true } (prep cfg P w) :=
  prep_cases cfg P w (fun hi => ⟨rfl, hi, rfl⟩) (fun _ => initialise_flags cfg P w)

theorem finalise_flags (cfg : Config S) (P : NodeId → Proto S σ) (w : World S σ) :
    SameFlags { w with finalized := true } (finalise cfg P w) := by
  cases hf : w.finalized with
  | true => rw [finalise_of_finalized cfg P hf]; exact ⟨rfl, rfl, hf⟩
  | false =>
    rw [finalise_eq cfg P w hf]
    have := ((SameFlags.handler cfg).callbackAll P .finish (List.range cfg.nNodes) w).trans
      ((SameFlags.handler cfg).logAll Obs.handlerFinal (fun _ => rfl) cfg.handlers _)
    exact ⟨this.iter, this.initialized, rfl⟩

theorem execStep_flags (cfg : Config S) (P : NodeId → Proto S σ) (e : Ev (EvKind S))
    (rest : List (Ev (EvKind S))) (w : World S σ) :
    SameFlags { w with iter := w.iter + 1 } (execStep cfg P e rest w) := by
  have h1 := execEv_flags cfg P e (popped e rest w)
  have h2 := (SameFlags.handler cfg).logAll (fun h => Obs.afterStep h (execEv cfg P e (popped e rest w)).iter e.ts)
    (fun _ => rfl) cfg.handlers (execEv cfg P e (popped e rest w))
  exact ⟨congrArg (· + 1) (h1.trans h2).iter, (h1.trans h2).initialized, (h1.trans h2).finalized⟩

section runs
variable {P : NodeId → Proto S σ} {I : World S σ → Prop}

/-- Events are executed, and the run is finalised, only in a world that is initialised and not finalised;
    the `w` of `hfin` and `hexec` is the world after `prep`. -/
theorem step_keeps (hprep : ∀ w, I w → I (prep cfg P w))
    (hfin : ∀ w, I w → w.initialized = true → w.finalized = false → I (finalise cfg P w))
    (hexec : ∀ w e rest, I w → w.initialized = true → w.finalized = false → w.loop.queue = e :: rest →
      isDone cfg w = false → I (execStep cfg P e rest w))
    {w : World S σ} (hw : I w) : I (step cfg P w).1 := by
  have hp := prep_flags cfg P w
  rcases step_cases cfg P w with ⟨_, hs⟩ | ⟨hf, _, hs⟩ | ⟨e, rest, hf, hd, hq, hs⟩
  · rw [hs]; exact hw
  · rw [hs]; exact hfin _ (hprep w hw) hp.initialized (hp.finalized.trans hf)
  · have hx := hexec _ e rest (hprep w hw) hp.initialized (hp.finalized.trans hf) hq hd
    have he := execStep_flags cfg P e rest (prep cfg P w)
    rw [hs]
    split
    · exact hfin _ hx (he.initialized.trans hp.initialized) (he.finalized.trans (hp.finalized.trans hf))
    · exact hx

theorem stepRaised_keeps (hprep : ∀ w, I w → I (prep cfg P w)) (hfin : ∀ w, I w → I (finalise cfg P w))
    (hexec : ∀ w e rest, I w → w.loop.queue = e :: rest → isDone cfg w = false →
      I (Sim.execEv cfg P e (popped e rest w)))
    {w : World S σ} (hw : I w) : I (stepRaised cfg P w) := by
  rcases stepRaised_cases cfg P w with ⟨_, hs⟩ | ⟨_, _, hs⟩ | ⟨e, rest, _, hd, hq, hs⟩
  · rw [hs]; exact hw
  · rw [hs]; exact hfin _ (hprep w hw)
  · rw [hs]; exact hexec _ e rest (hprep w hw) hq hd

theorem ReachableT.induction (h0 : I (Sim.init cfg P)) (hprog : ∀ n p w, I w → I (runProg cfg n p w).1)
    (hprep : ∀ w, I w → I (prep cfg P w)) (hfin : ∀ w, I w → I (finalise cfg P w))
    (hexec : ∀ w e rest, I w → w.loop.queue = e :: rest → isDone cfg w = false →
      I (Sim.execEv cfg P e (popped e rest w)))
    (hhooks : ∀ w e rest, I w → w.loop.queue = e :: rest → isDone cfg w = false →
      I (Sim.execEv cfg P e (popped e rest w)) → I (execStep cfg P e rest w))
    {w : World S σ} (hr : ReachableT cfg P w) : I w := by
  induction hr with
  | init => exact h0
  | step _ ih =>
    exact step_keeps hprep (fun w hw _ _ => hfin w hw)
      (fun w e rest hw _ _ hq hd => hhooks w e rest hw hq hd (hexec w e rest hw hq hd)) ih
  | ext n p _ ih => exact hprog n p _ ih
  | raised _ ih =>
    exact stepRaised_keeps hprep hfin hexec ih

/-- `hexec` (`X.execEv_popped`) is about the world after `prep`.  An `I` whose `hexec` needs `WInv w` is
    carried paired with `WInv` (`Lifecycle.and`): `Lifecycle.reachableT_winv`. -/
theorem Lifecycle.reachableT (h : Lifecycle cfg (Keeps I)) (h0 : I (init cfg P))
    (hexec : ∀ w e rest, I w → w.loop.queue = e :: rest → isDone cfg w = false →
      I (Sim.execEv cfg P e (popped e rest w)))
    {w : World S σ} (hr : ReachableT cfg P w) : I w :=
  ReachableT.induction h0 h.runProg (h.prep P) (h.finalise P) hexec (fun _ e _ _ _ _ => h.hooks e.ts _) hr

end runs

end Sim
