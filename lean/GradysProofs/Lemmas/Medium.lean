import GradysProofs.Lemmas.SimLift
/-
  The communication medium (`can_transmit` + `_transmit_message`): what one copy, and a broadcast, do to
  the world and what they leave alone, for every scalar type.
-/
set_option linter.unusedSectionVars false

namespace Sim
variable {S σ : Type} [Scalar S]

theorem transmit_accepted (cfg : Config S) (src dst : NodeId) (msg : String) (w : World S σ) :
    (transmit cfg src dst msg w).raccepted =
      if copyDelivered cfg w src dst then deliveryEv cfg w src dst msg :: w.raccepted
      else w.raccepted := by
  rw [transmit_eq]; split <;> rfl

theorem transmit_queue (cfg : Config S) (src dst : NodeId) (msg : String) (w : World S σ) :
    (transmit cfg src dst msg w).loop.queue =
      if copyDelivered cfg w src dst then insertEv (deliveryEv cfg w src dst msg) w.loop.queue
      else w.loop.queue := by
  rw [transmit_eq]; split <;> rfl

theorem transmit_drawIdx (cfg : Config S) (src dst : NodeId) (msg : String) (w : World S σ) :
    (transmit cfg src dst msg w).drawIdx = w.drawIdx + drawCost cfg := by
  rw [transmit_eq]; split <;> rfl

theorem inRange_congr {w w' : World S σ} {src dst : NodeId} (hs : w'.pos src = w.pos src)
    (hd : w'.pos dst = w.pos dst) (hr : w'.range src = w.range src) :
    inRange w' src dst = inRange w src dst := by
  rw [inRange_eq, inRange_eq, hs, hd, hr]

theorem drawPasses_congr (cfg : Config S) {w w' : World S σ} (h : w'.drawIdx = w.drawIdx) :
    drawPasses cfg w' = drawPasses cfg w := by
  unfold drawPasses; rw [h]

theorem copyDelivered_congr (cfg : Config S) {w w' : World S σ} {src dst : NodeId} (hi : w'.drawIdx = w.drawIdx)
    (hs : w'.pos src = w.pos src) (hd : w'.pos dst = w.pos dst) (hr : w'.range src = w.range src) :
    copyDelivered cfg w' src dst = copyDelivered cfg w src dst := by
  unfold copyDelivered
  rw [drawPasses_congr cfg hi, inRange_congr hs hd hr]

theorem deliverTime_congr (cfg : Config S) {w w' : World S σ} (h : w'.loop.now = w.loop.now) :
    deliverTime cfg w' = deliverTime cfg w := by
  rw [deliverTime_eq, deliverTime_eq, h]

/-! The two regimes of `can_transmit`: with `failure_rate ≤ 0` no draw is made and range alone decides;
    with `failure_rate > 0` each copy consumes one draw, which must exceed the rate. -/

section lossfree
variable {cfg : Config S} (hl : Scalar.gt cfg.failRate (Scalar.ofInt 0) = false)
include hl

theorem drawPasses_lossfree (w : World S σ) : drawPasses cfg w = true := by
  unfold drawPasses; rw [hl]; rfl

theorem copyDelivered_lossfree (w : World S σ) (src dst : NodeId) :
    copyDelivered cfg w src dst = inRange w src dst := by
  unfold copyDelivered; rw [drawPasses_lossfree hl, Bool.true_and]

theorem drawCost_lossfree : drawCost cfg = 0 := by
  unfold drawCost; rw [hl]; rfl

end lossfree

section lossy
variable {cfg : Config S} (hl : Scalar.gt cfg.failRate (Scalar.ofInt 0) = true)
include hl

theorem drawPasses_lossy (w : World S σ) : drawPasses cfg w = Scalar.gt (cfg.draws w.drawIdx) cfg.failRate := by
  unfold drawPasses; rw [if_pos hl]

theorem copyDelivered_lossy (w : World S σ) (src dst : NodeId) :
    copyDelivered cfg w src dst = (Scalar.gt (cfg.draws w.drawIdx) cfg.failRate && inRange w src dst) := by
  unfold copyDelivered; rw [drawPasses_lossy hl]

theorem drawCost_lossy : drawCost cfg = 1 := by
  unfold drawCost; rw [if_pos hl]

end lossy

/-- Fields the medium leaves alone (the two flags and the counter, which it does not write either, are in
    `ReqFrame`).  What it writes: the queue with its request counter, the accepted events, the draw index. -/
structure MediumFrame (w w' : World S σ) : Prop where
  pos : w'.pos = w.pos
  range : w'.range = w.range
  target : w'.target = w.target
  speed : w'.speed = w.speed
  pending : w'.pending = w.pending
  nextTimer : w'.nextTimer = w.nextTimer
  now : w'.loop.now = w.loop.now
  rexecuted : w'.rexecuted = w.rexecuted
  rtrace : w'.rtrace = w.rtrace
  pstate : w'.pstate = w.pstate

theorem MediumFrame.medium (cfg : Config S) : Medium (σ := σ) cfg MediumFrame where
  refl _ := ⟨rfl, rfl, rfl, rfl, rfl, rfl, rfl, rfl, rfl, rfl⟩
  trans h1 h2 := ⟨h2.pos.trans h1.pos, h2.range.trans h1.range, h2.target.trans h1.target,
    h2.speed.trans h1.speed, h2.pending.trans h1.pending, h2.nextTimer.trans h1.nextTimer,
    h2.now.trans h1.now, h2.rexecuted.trans h1.rexecuted, h2.rtrace.trans h1.rtrace,
    h2.pstate.trans h1.pstate⟩
  deliver _ _ _ _ := ⟨rfl, rfl, rfl, rfl, rfl, rfl, rfl, rfl, rfl, rfl⟩
  draw _ _ := ⟨rfl, rfl, rfl, rfl, rfl, rfl, rfl, rfl, rfl, rfl⟩

theorem transmit_frame (cfg : Config S) (src dst : NodeId) (msg : String) (w : World S σ) :
    MediumFrame w (transmit cfg src dst msg w) :=
  (MediumFrame.medium cfg).transmit src dst msg w

theorem broadcastTo_frame (cfg : Config S) (src : NodeId) (msg : String) (dsts : List NodeId)
    (w : World S σ) : MediumFrame w (broadcastTo cfg src msg dsts w) :=
  (MediumFrame.medium cfg).broadcastTo src msg dsts w

theorem MediumFrame.inRange {w w' : World S σ} (h : MediumFrame w w') (src dst : NodeId) :
    inRange w' src dst = inRange w src dst :=
  inRange_congr (by rw [h.pos]) (by rw [h.pos]) (by rw [h.range])

theorem broadcastTo_filter (cfg : Config S) (src : NodeId) (msg : String) (dsts : List NodeId)
    (w : World S σ) :
    broadcastTo cfg src msg dsts w = broadcastTo cfg src msg (dsts.filter (fun d => d ≠ src)) w := by
  induction dsts generalizing w with
  | nil => rfl
  | cons d ds ih =>
    rw [broadcastTo_cons]
    by_cases h : d = src
    · simp [h, ih]
    · simp [h, ih, broadcastTo_cons]

theorem transmit_lossfree (cfg : Config S) (hl : Scalar.gt cfg.failRate (Scalar.ofInt 0) = false)
    (src d : NodeId) (msg : String) (w : World S σ) (hr : inRange w src d = true) :
    (transmit cfg src d msg w).raccepted =
      ⟨w.loop.now + max cfg.delay 0, w.loop.nextSeq, .deliver d src msg⟩ :: w.raccepted := by
  rw [transmit_accepted, copyDelivered_lossfree hl, hr, deliveryEv_eq]
  rfl

theorem broadcastTo_lossfree (cfg : Config S) (hl : Scalar.gt cfg.failRate (Scalar.ofInt 0) = false)
    (src : NodeId) (msg : String) (dsts : List NodeId) (w : World S σ)
    (hr : ∀ d ∈ dsts, d ≠ src → inRange w src d = true) :
    ∃ new, (broadcastTo cfg src msg dsts w).raccepted = new ++ w.raccepted ∧
      new.reverse.map (fun e => (e.ts, e.kind)) =
        (dsts.filter (· ≠ src)).map (fun d => (w.loop.now + max cfg.delay 0, EvKind.deliver d src msg)) := by
  induction dsts generalizing w with
  | nil => exact ⟨[], rfl, rfl⟩
  | cons d ds ih =>
    rw [broadcastTo_cons]
    by_cases hd : d = src
    · obtain ⟨new, h1, h2⟩ := ih w (fun x hx => hr x (List.mem_cons_of_mem _ hx))
      rw [if_pos hd]
      exact ⟨new, h1, by rw [h2]; simp [hd]⟩
    · have hfr := transmit_frame cfg src d msg w
      have hacc := transmit_lossfree cfg hl src d msg w (hr d List.mem_cons_self hd)
      obtain ⟨new, h1, h2⟩ := ih (transmit cfg src d msg w)
        (fun x hx hne => (hfr.inRange src x).trans (hr x (List.mem_cons_of_mem _ hx) hne))
      rw [if_neg hd]
      refine ⟨new ++ [⟨w.loop.now + max cfg.delay 0, w.loop.nextSeq, .deliver d src msg⟩], ?_, ?_⟩
      · rw [h1, hacc]; simp
      · rw [List.reverse_append, List.map_append, h2, hfr.now]
        simp [hd]

end Sim
