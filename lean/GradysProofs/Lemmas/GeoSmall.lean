import GradysProofs.Lemmas.GeoReal
/-
  Small-angle bounds behind `C20_small_offsets` and the two-sided bound of the parallel leg; no
  calculus.  The root is the cubic bound `|x − sin x| ≤ |x|³/6` of Mathlib: it gives
  `|x|·(1 − r²/6) ≤ |sin x|` (`mul_le_abs_sin`), hence the lower bound of `sin²` and, after a first
  rough bound by Jordan's inequality, the inversion of `sin` (`abs_mul_le_of_abs_sin_le`); with the
  sum-to-product formula it makes `sin` bi-Lipschitz near 0 (`mul_le_abs_sin_sub_sin`), which
  gives the upper bound and the Lipschitz bounds of `arcsin`.  The upper bound of the parallel
  leg (`arcsin_mul_abs_sin_le`) is concavity of `sin`.  All bounds carry the size `r` (or `ρ`) of
  the angles as a variable; numbers are put in by the callers in `Properties/C20.lean`.
-/
open Real

namespace GeoSmall
open GeoReal

theorem self_le_arcsin {x : ℝ} (h0 : 0 ≤ x) (h1 : x ≤ 1) : x ≤ arcsin x :=
  calc x = sin (arcsin x) := (sin_arcsin (le_trans (by norm_num) h0) h1).symm
    _ ≤ arcsin x := sin_le (arcsin_nonneg.mpr h0)

theorem sqrt_havA_le_arcsin (φ1 φ2 dl : ℝ) : √(havA φ1 φ2 dl) ≤ arcsin (√(havA φ1 φ2 dl)) :=
  self_le_arcsin (sqrt_nonneg _) (sqrt_le_one.mpr (havA_le_one φ1 φ2 dl))

theorem sq_le_sq_of_abs_le {x r : ℝ} (h : |x| ≤ r) : x ^ 2 ≤ r ^ 2 :=
  sq_le_sq.mpr (h.trans (le_abs_self r))

theorem mul_le_abs_sin {x r : ℝ} (hx : |x| ≤ r) : |x| * (1 - r ^ 2 / 6) ≤ |sin x| :=
  calc |x| * (1 - r ^ 2 / 6) ≤ |x| * (1 - |x| ^ 2 / 6) :=
        mul_le_mul_of_nonneg_left (sub_le_sub_left (div_le_div_of_nonneg_right
          (pow_le_pow_left₀ (abs_nonneg x) hx 2) (by norm_num)) 1) (abs_nonneg x)
    _ = |x| - |x| ^ 3 / 6 := by ring
    _ ≤ |sin x| := sub_le_comm.mp ((abs_sub_abs_le_abs_sub x (sin x)).trans (abs_sub_sin_le x))

theorem one_sub_le_mul {t : ℝ} (ht : 0 ≤ t) : 1 - t ≤ (1 - t / 6) * (1 - t / 2) := by
  linear_combination 1 / 12 * mul_nonneg ht ht + 1 / 3 * ht

/-- `sin` is bi-Lipschitz near 0 (the upper bound is `abs_sin_sub_sin_le`): by sum-to-product
    `sin x − sin y = 2·sin p·cos q` with `|p|, |q| ≤ r`, then `|sin p| ≥ |p|·(1 − r²/6)` and
    `cos q ≥ 1 − r²/2`. -/
theorem mul_le_abs_sin_sub_sin {x y r : ℝ} (hx : |x| ≤ r) (hy : |y| ≤ r) (hr : r ≤ 1) :
    |x - y| * (1 - r ^ 2) ≤ |sin x - sin y| := by
  have hr0 : 0 ≤ r := (abs_nonneg x).trans hx
  have hr2 : r ^ 2 ≤ 1 := pow_le_one₀ hr0 hr
  have hxy : |x| + |y| ≤ 2 * r := (add_le_add hx hy).trans_eq (two_mul r).symm
  have hp : |(x - y) / 2| ≤ r := abs_div_two_le' ((abs_sub x y).trans hxy)
  have hq : |(x + y) / 2| ≤ r := abs_div_two_le' ((abs_add_le x y).trans hxy)
  have hc : 1 - r ^ 2 / 2 ≤ cos ((x + y) / 2) :=
    (sub_le_sub_left (div_le_div_of_nonneg_right (sq_le_sq_of_abs_le hq) zero_le_two) 1).trans
      one_sub_sq_div_two_le_cos
  have h2 : 0 ≤ 1 - r ^ 2 / 2 := sub_nonneg.mpr ((half_le_self (sq_nonneg r)).trans hr2)
  rw [sin_sub_sin, abs_mul, abs_mul, abs_two, abs_of_nonneg (h2.trans hc)]
  calc |x - y| * (1 - r ^ 2)
      ≤ |x - y| * ((1 - r ^ 2 / 6) * (1 - r ^ 2 / 2)) :=
        mul_le_mul_of_nonneg_left (one_sub_le_mul (sq_nonneg r)) (abs_nonneg _)
    _ = 2 * (|(x - y) / 2| * (1 - r ^ 2 / 6)) * (1 - r ^ 2 / 2) := by rw [abs_div_two]; ring
    _ ≤ 2 * |sin ((x - y) / 2)| * cos ((x + y) / 2) :=
        mul_le_mul (mul_le_mul_of_nonneg_left (mul_le_abs_sin hp) zero_le_two) hc h2
          (mul_nonneg zero_le_two (abs_nonneg _))

/-- the same with the second-order factor `1 − r²` of `mul_le_abs_sin_sub_sin` -/
theorem mul_le_abs_sin' {x r : ℝ} (hx : |x| ≤ r) : |x| * (1 - r ^ 2) ≤ |sin x| :=
  (mul_le_mul_of_nonneg_left (sub_le_sub_left (div_le_self (sq_nonneg r) (by norm_num)) 1)
    (abs_nonneg x)).trans (mul_le_abs_sin hx)

/-- the lower counterpart of `sin_sq_le_sq` -/
theorem mul_sq_le_sin_sq {x r : ℝ} (hx : |x| ≤ r) (hr : r ≤ 1) :
    (1 - r ^ 2) ^ 2 * x ^ 2 ≤ sin x ^ 2 := by
  rw [← sq_abs x, ← sq_abs (sin x), ← mul_pow, mul_comm]
  exact pow_le_pow_left₀ (mul_nonneg (abs_nonneg x)
    (sub_nonneg.mpr (pow_le_one₀ ((abs_nonneg x).trans hx) hr))) (mul_le_abs_sin' hx) 2

/-- Jordan's inequality `2/π·|x| ≤ |sin x|` with `π ≤ 4` -/
theorem abs_le_two_mul_abs_sin {x : ℝ} (hx : |x| ≤ π / 2) : |x| ≤ 2 * |sin x| := by
  have h := mul_abs_le_abs_sin hx
  rw [div_mul_eq_mul_div, div_le_iff₀ pi_pos] at h
  linear_combination
    1 / 2 * h + 1 / 2 * mul_le_mul_of_nonneg_right pi_le_four (abs_nonneg (sin x))

theorem abs_arcsin_le {s : ℝ} (h : |s| ≤ 1) : |arcsin s| ≤ 2 * |s| := by
  have := abs_le_two_mul_abs_sin (abs_le.mpr ⟨neg_pi_div_two_le_arcsin s, arcsin_le_pi_div_two s⟩)
  rwa [sin_arcsin (abs_le.mp h).1 (abs_le.mp h).2] at this

/-- `arcsin` near 0 is 1-Lipschitz from below and `(1 − r²)⁻¹`-Lipschitz from above, `r` a bound
    for the two values: `sin` is bi-Lipschitz there -/
theorem abs_arcsin_sub_arcsin {s t r : ℝ} (hs : 2 * |s| ≤ r) (ht : 2 * |t| ≤ r) (hr : r ≤ 1) :
    |s - t| ≤ |arcsin s - arcsin t| ∧ |arcsin s - arcsin t| * (1 - r ^ 2) ≤ |s - t| := by
  have hs1 : |s| ≤ 1 := by linear_combination 1 / 2 * hs + 1 / 2 * hr
  have ht1 : |t| ≤ 1 := by linear_combination 1 / 2 * ht + 1 / 2 * hr
  have h := mul_le_abs_sin_sub_sin ((abs_arcsin_le hs1).trans hs) ((abs_arcsin_le ht1).trans ht) hr
  have h' := abs_sin_sub_sin_le (arcsin s) (arcsin t)
  rw [sin_arcsin (abs_le.mp hs1).1 (abs_le.mp hs1).2,
    sin_arcsin (abs_le.mp ht1).1 (abs_le.mp ht1).2] at h h'
  exact ⟨h', h⟩

/-- the upper counterpart of `self_le_arcsin`: the case `t = 0` of `abs_arcsin_sub_arcsin` -/
theorem arcsin_mul_le {x r : ℝ} (h0 : 0 ≤ x) (h : 2 * x ≤ r) (hr : r ≤ 1) :
    arcsin x * (1 - r ^ 2) ≤ x := by
  have := (abs_arcsin_sub_arcsin (t := 0) (by rwa [abs_of_nonneg h0])
    (by rw [abs_zero, mul_zero]; exact (mul_nonneg zero_le_two h0).trans h) hr).2
  rwa [arcsin_zero, sub_zero, sub_zero, abs_of_nonneg h0,
    abs_of_nonneg (arcsin_nonneg.mpr h0)] at this

theorem abs_arcsin_mul_sin_sub {c u₁ u₂ r : ℝ} (hc0 : 0 ≤ c) (hc1 : c ≤ 1)
    (h₁ : 2 * |u₁| ≤ r) (h₂ : 2 * |u₂| ≤ r) (hr : r ≤ 1) :
    |c * (u₁ - u₂)| * (1 - r ^ 2) ≤ |arcsin (c * sin u₁) - arcsin (c * sin u₂)| ∧
    |arcsin (c * sin u₁) - arcsin (c * sin u₂)| * (1 - r ^ 2) ≤ |c * (u₁ - u₂)| := by
  have hb : ∀ u, 2 * |u| ≤ r → 2 * |c * sin u| ≤ r := fun u hu => by
    rw [abs_mul, abs_of_nonneg hc0]
    exact (mul_le_mul_of_nonneg_left ((mul_le_of_le_one_left (abs_nonneg _) hc1).trans
      abs_sin_le_abs) zero_le_two).trans hu
  have hu : ∀ u, 2 * |u| ≤ r → |u| ≤ r := fun u hu =>
    (le_mul_of_one_le_left (abs_nonneg u) one_le_two).trans hu
  obtain ⟨hlo, hhi⟩ := abs_arcsin_sub_arcsin (hb u₁ h₁) (hb u₂ h₂) hr
  rw [← mul_sub, abs_mul, abs_of_nonneg hc0] at hlo hhi
  rw [abs_mul, abs_of_nonneg hc0]
  refine ⟨le_trans ?_ hlo, hhi.trans (mul_le_mul_of_nonneg_left (abs_sin_sub_sin_le u₁ u₂) hc0)⟩
  rw [mul_assoc]
  exact mul_le_mul_of_nonneg_left (mul_le_abs_sin_sub_sin (hu u₁ h₁) (hu u₂ h₂) hr) hc0

/-- `arcsin (k·|sin x|) ≤ k·|x|` for `0 ≤ k ≤ 1`, `|x| ≤ π/2`: `sin` is concave on `[0, π]` and
    vanishes at 0, so `k·sin t ≤ sin (k·t)` -/
theorem arcsin_mul_abs_sin_le {k x : ℝ} (hk0 : 0 ≤ k) (hk1 : k ≤ 1) (hx : |x| ≤ π / 2) :
    arcsin (k * |sin x|) ≤ k * |x| := by
  have hπ : |x| ≤ π := hx.trans (half_le_self pi_pos.le)
  have hkx : k * |x| ≤ π / 2 := (mul_le_of_le_one_left (abs_nonneg x) hk1).trans hx
  rw [abs_sin_eq_sin_abs_of_abs_le_pi hπ, arcsin_le_iff_le_sin
    ⟨(neg_one_lt_zero.le).trans (mul_nonneg hk0 (sin_nonneg_of_nonneg_of_le_pi (abs_nonneg x) hπ)),
      mul_le_one₀ hk1 (sin_nonneg_of_nonneg_of_le_pi (abs_nonneg x) hπ) (sin_le_one _)⟩
    ⟨(neg_nonpos.mpr (half_pos pi_pos).le).trans (mul_nonneg hk0 (abs_nonneg x)), hkx⟩]
  simpa using strictConcaveOn_sin_Icc.concaveOn.2 (show |x| ∈ Set.Icc 0 π from ⟨abs_nonneg x, hπ⟩)
    (show (0:ℝ) ∈ Set.Icc 0 π from ⟨le_rfl, pi_pos.le⟩) hk0 (sub_nonneg.mpr hk1)
    (add_sub_cancel k 1)

theorem le_arcsin_mul_abs_sin {k x : ℝ} (hk0 : 0 ≤ k) (hk1 : k ≤ 1) :
    k * |x| * (1 - x ^ 2 / 6) ≤ arcsin (k * |sin x|) :=
  calc k * |x| * (1 - x ^ 2 / 6) = k * (|x| * (1 - |x| ^ 2 / 6)) := by rw [sq_abs, mul_assoc]
    _ ≤ k * |sin x| := mul_le_mul_of_nonneg_left (mul_le_abs_sin le_rfl) hk0
    _ ≤ arcsin (k * |sin x|) := self_le_arcsin (mul_nonneg hk0 (abs_nonneg _))
        (mul_le_one₀ hk1 (abs_nonneg _) (abs_sin_le_one x))

theorem sqrt_sq_mul {k : ℝ} (hk : 0 ≤ k) (s : ℝ) : √(k ^ 2 * s) = k * √s := by
  rw [sqrt_mul (sq_nonneg k), sqrt_sq hk]

/-- shrinking one leg of a right triangle by a factor `θ ≤ 1` shrinks the hypotenuse by at most
    that factor -/
theorem mul_hypot_le {X W D θ : ℝ} (hθ0 : 0 ≤ θ) (hθ1 : θ ≤ 1) (h : |W| * θ ≤ |D|) :
    θ * √(X ^ 2 + W ^ 2) ≤ √(X ^ 2 + D ^ 2) := by
  refine (sqrt_sq_mul hθ0 _).symm.trans_le (sqrt_le_sqrt ?_)
  have hW : θ ^ 2 * W ^ 2 ≤ D ^ 2 := by
    rw [← sq_abs W, ← sq_abs D, ← mul_pow, mul_comm]
    exact pow_le_pow_left₀ (mul_nonneg (abs_nonneg W) hθ0) h 2
  rw [mul_add]
  exact add_le_add (mul_le_of_le_one_left (sq_nonneg X) (pow_le_one₀ hθ0 hθ1)) hW

/-- The haversine `a` of two points near the latitude `φ₀` against the equirectangular form
    `(Δφ/2)² + (cos φ₀·Δλ/2)²`, with relative error `ρ` to first order: `cos φ₁·cos φ₂` is within
    `(1 ± ρ)²` of `cos²φ₀` because `cos` is 1-Lipschitz, and `sin² ≈ id²`. -/
theorem havA_bounds {φ0 φ1 φ2 dl ρ : ℝ} (hρ : ρ ≤ 1) (hc : 0 ≤ cos φ0)
    (h1 : |φ1 - φ0| ≤ ρ * cos φ0) (h2 : |φ2 - φ0| ≤ ρ * cos φ0)
    (hX : |(φ2 - φ1) / 2| ≤ ρ) (hY : |dl / 2| ≤ ρ) :
    ((1 - ρ) * (1 - ρ ^ 2)) ^ 2 * (((φ2 - φ1) / 2) ^ 2 + (cos φ0 * (dl / 2)) ^ 2) ≤ havA φ1 φ2 dl ∧
    havA φ1 φ2 dl ≤ (1 + ρ) ^ 2 * (((φ2 - φ1) / 2) ^ 2 + (cos φ0 * (dl / 2)) ^ 2) := by
  have hρ0 : 0 ≤ ρ := (abs_nonneg _).trans hX
  have hcos : ∀ φ, |φ - φ0| ≤ ρ * cos φ0 →
      cos φ0 * (1 - ρ) ≤ cos φ ∧ cos φ ≤ cos φ0 * (1 + ρ) := fun φ h => by
    have := abs_le.mp ((abs_cos_sub_cos_le φ φ0).trans h)
    exact ⟨by linear_combination this.1, by linear_combination this.2⟩
  obtain ⟨l1, u1⟩ := hcos φ1 h1
  obtain ⟨l2, u2⟩ := hcos φ2 h2
  have hl0 : 0 ≤ cos φ0 * (1 - ρ) := mul_nonneg hc (sub_nonneg.mpr hρ)
  have p1 : 0 ≤ cos φ1 := hl0.trans l1
  have hCl : cos φ0 * (1 - ρ) * (cos φ0 * (1 - ρ)) ≤ cos φ1 * cos φ2 := mul_le_mul l1 l2 hl0 p1
  have hCu : cos φ1 * cos φ2 ≤ cos φ0 * (1 + ρ) * (cos φ0 * (1 + ρ)) :=
    mul_le_mul u1 u2 (hl0.trans l2) (p1.trans u1)
  have hρ2 : (1 - ρ) ^ 2 ≤ 1 := pow_le_one₀ (sub_nonneg.mpr hρ) (sub_le_self 1 hρ0)
  have sX' : sin ((φ2 - φ1) / 2) ^ 2 ≤ (1 + ρ) ^ 2 * ((φ2 - φ1) / 2) ^ 2 :=
    sin_sq_le_sq.trans
      (le_mul_of_one_le_left (sq_nonneg _) (one_le_pow₀ (le_add_of_nonneg_right hρ0)))
  unfold havA
  constructor
  · calc ((1 - ρ) * (1 - ρ ^ 2)) ^ 2 * (((φ2 - φ1) / 2) ^ 2 + (cos φ0 * (dl / 2)) ^ 2)
        = (1 - ρ) ^ 2 * ((1 - ρ ^ 2) ^ 2 * ((φ2 - φ1) / 2) ^ 2)
          + cos φ0 * (1 - ρ) * (cos φ0 * (1 - ρ)) * ((1 - ρ ^ 2) ^ 2 * (dl / 2) ^ 2) := by ring
      _ ≤ sin ((φ2 - φ1) / 2) ^ 2 + cos φ1 * cos φ2 * sin (dl / 2) ^ 2 :=
        add_le_add ((mul_le_of_le_one_left (mul_nonneg (sq_nonneg _) (sq_nonneg _)) hρ2).trans
            (mul_sq_le_sin_sq hX hρ))
          (mul_le_mul hCl (mul_sq_le_sin_sq hY hρ) (mul_nonneg (sq_nonneg _) (sq_nonneg _))
            ((mul_self_nonneg _).trans hCl))
  · calc sin ((φ2 - φ1) / 2) ^ 2 + cos φ1 * cos φ2 * sin (dl / 2) ^ 2
        ≤ (1 + ρ) ^ 2 * ((φ2 - φ1) / 2) ^ 2
          + cos φ0 * (1 + ρ) * (cos φ0 * (1 + ρ)) * (dl / 2) ^ 2 :=
        add_le_add sX' (mul_le_mul hCu sin_sq_le_sq (sq_nonneg _) (mul_self_nonneg _))
      _ = _ := by ring

/-- two nonnegative quantities that agree up to factors close to 1 differ by a small multiple of
    either -/
theorem abs_sub_le_of_mul_le {x y m M k ε : ℝ} (hx : 0 ≤ x) (hy : 0 ≤ y) (hk : 0 < k) (hε : 0 ≤ ε)
    (h1 : m * x ≤ y) (h2 : M * y ≤ k * x) (hm : 1 ≤ (1 + ε) * m) (hM : (1 - ε) * k ≤ M) :
    |x - y| ≤ ε * y := by
  have lo : k * ((1 - ε) * y) ≤ k * x :=
    calc k * ((1 - ε) * y) = (1 - ε) * k * y := by ring
      _ ≤ M * y := mul_le_mul_of_nonneg_right hM hy
      _ ≤ k * x := h2
  have hi : x ≤ (1 + ε) * y :=
    calc x ≤ (1 + ε) * m * x := le_mul_of_one_le_left hx hm
      _ = (1 + ε) * (m * x) := mul_assoc _ _ _
      _ ≤ (1 + ε) * y := mul_le_mul_of_nonneg_left h1 (add_nonneg zero_le_one hε)
  rw [abs_le]
  exact ⟨by linear_combination le_of_mul_le_mul_left lo hk, by linear_combination hi⟩

/-- the two polynomial inequalities in `ρ` behind the tolerance `3/2·ρ` -/
theorem tolerance_ineq {ρ : ℝ} (hρ0 : 0 ≤ ρ) (hρ : ρ ≤ 1 / 20) :
    1 ≤ (1 + 3 / 2 * ρ) * ((1 - ρ) * (1 - ρ ^ 2) * (1 - ρ ^ 2)) ∧
    (1 - 3 / 2 * ρ) * (1 + ρ) ≤ (1 - (3 * ρ) ^ 2) * (1 - ρ ^ 2) := by
  -- after expansion both are linear in the products `ρᵏ·(1/20 − ρ) ≥ 0` and `ρᵏ ≥ 0`
  have h := sub_nonneg.mpr hρ
  constructor
  · linear_combination 71 / 20 * mul_nonneg hρ0 h + mul_nonneg (sq_nonneg ρ) h
      + 3 / 2 * mul_nonneg (pow_nonneg hρ0 5) h + 129 / 400 * hρ0 + 4 * pow_nonneg hρ0 4
      + 17 / 40 * pow_nonneg hρ0 5
  · linear_combination 17 / 2 * mul_nonneg hρ0 h + 3 / 40 * hρ0 + 9 * pow_nonneg hρ0 4

/-- **Small offsets, in radians and in units of `2R`.**  Reference latitude `φ₀`; two targets at
    latitudes `φᵢ` and longitude offsets `vᵢ` from the reference with `|φᵢ − φ₀| ≤ ρ·cos φ₀` and
    `|vᵢ| ≤ ρ` — a box of half-width `ρ·cos φ₀·R` metres in both directions.  Then the converted
    horizontal distance `2R·√(ΔN² + ΔE²)` and the great-circle distance `2R·arcsin √a` differ by at
    most `3/2·ρ` of the latter.  Both are compared with the equirectangular `E = √(X² + W²)`,
    `X = Δφ/2`, `W = cos φ₀·Δλ/2`:  `√a` is `E` up to `1 ± ρ` (`havA_bounds`; the only first-order
    error, from `cos φ` varying over the box), `arcsin` and the east–west conversion are the
    identity up to second order. -/
theorem small_offsets {φ0 φ1 φ2 v1 v2 ρ : ℝ} (hρ : ρ ≤ 1 / 20) (hc : 0 ≤ cos φ0)
    (hu1 : |φ1 - φ0| ≤ ρ * cos φ0) (hu2 : |φ2 - φ0| ≤ ρ * cos φ0)
    (hv1 : |v1| ≤ ρ) (hv2 : |v2| ≤ ρ) :
    |√(((φ2 - φ1) / 2) ^ 2
          + (arcsin (cos φ0 * sin (v2 / 2)) - arcsin (cos φ0 * sin (v1 / 2))) ^ 2)
        - arcsin (√(havA φ1 φ2 (v2 - v1)))|
      ≤ 3 / 2 * ρ * arcsin (√(havA φ1 φ2 (v2 - v1))) := by
  have hρ0 : 0 ≤ ρ := (abs_nonneg v1).trans hv1
  have hc1 : cos φ0 ≤ 1 := cos_le_one φ0
  have hρ1 : ρ ≤ 1 := hρ.trans (by norm_num)
  have hθ0 : 0 ≤ 1 - ρ ^ 2 := sub_nonneg.mpr (pow_le_one₀ hρ0 hρ1)
  have hθ1 : 1 - ρ ^ 2 ≤ 1 := sub_le_self 1 (sq_nonneg ρ)
  have hm0 : 0 ≤ (1 - ρ) * (1 - ρ ^ 2) := mul_nonneg (sub_nonneg.mpr hρ1) hθ0
  have h1ρ : 0 < 1 + ρ := add_pos_of_pos_of_nonneg one_pos hρ0
  have hX : |(φ2 - φ1) / 2| ≤ ρ := abs_div_two_le' <|
    calc |φ2 - φ1| ≤ |φ2 - φ0| + |φ0 - φ1| := abs_sub_le φ2 φ0 φ1
      _ ≤ ρ * cos φ0 + ρ * cos φ0 := add_le_add hu2 (abs_sub_comm φ0 φ1 ▸ hu1)
      _ ≤ 2 * ρ := (two_mul _).symm.trans_le
          (mul_le_mul_of_nonneg_left (mul_le_of_le_one_right hρ0 hc1) zero_le_two)
  have hY : |(v2 - v1) / 2| ≤ ρ :=
    abs_div_two_le' ((abs_sub v2 v1).trans ((add_le_add hv2 hv1).trans_eq (two_mul ρ).symm))
  have hW : |cos φ0 * ((v2 - v1) / 2)| ≤ ρ := by
    rw [abs_mul, abs_of_nonneg hc]; exact (mul_le_of_le_one_left (abs_nonneg _) hc1).trans hY
  obtain ⟨alo, ahi⟩ := havA_bounds hρ1 hc hu1 hu2 hX hY
  -- `√a ≤ 3/2·ρ`, so `arcsin √a` is `√a` up to second order
  have ha4 : havA φ1 φ2 (v2 - v1) ≤ (3 / 2 * ρ) ^ 2 :=
    calc _ ≤ (1 + ρ) ^ 2 * _ := ahi
      _ ≤ 9 / 8 * (ρ ^ 2 + ρ ^ 2) :=  -- `(1 + ρ)² ≤ (21/20)² ≤ 9/8`
        mul_le_mul ((pow_le_pow_left₀ h1ρ.le (by linear_combination hρ : 1 + ρ ≤ 21 / 20)
            2).trans (by norm_num))
          (add_le_add (sq_le_sq_of_abs_le hX) (sq_le_sq_of_abs_le hW))
            (add_nonneg (sq_nonneg _) (sq_nonneg _)) (by norm_num)
      _ = (3 / 2 * ρ) ^ 2 := by ring
  have hx : √(havA φ1 φ2 (v2 - v1)) ≤ 3 / 2 * ρ :=
    (sqrt_le_sqrt ha4).trans_eq (sqrt_sq (mul_nonneg (by norm_num) hρ0))
  have hA0 := sqrt_havA_le_arcsin φ1 φ2 (v2 - v1)
  -- `r = 3ρ` bounds `2·√a`
  have hA1 : arcsin (√(havA φ1 φ2 (v2 - v1))) * (1 - (3 * ρ) ^ 2) ≤ √(havA φ1 φ2 (v2 - v1)) :=
    arcsin_mul_le (sqrt_nonneg _) (by linear_combination 2 * hx) (by linear_combination 3 * hρ)
  -- the converted east–west difference against `W`
  have hv : ∀ v : ℝ, |v| ≤ ρ → 2 * |v / 2| ≤ ρ := fun v h => by
    rwa [abs_div_two, mul_div_cancel₀ _ two_ne_zero]
  obtain ⟨dlo, dhi⟩ := abs_arcsin_mul_sin_sub hc hc1 (hv v2 hv2) (hv v1 hv1) hρ1
  rw [← sub_div] at dlo dhi
  have c1 := mul_hypot_le (X := (φ2 - φ1) / 2) hθ0 hθ1 dlo
  have c2 := mul_hypot_le (X := (φ2 - φ1) / 2) hθ0 hθ1 dhi
  -- the great-circle side against `E`
  have g1 := (sqrt_sq_mul hm0 _).symm.trans_le (sqrt_le_sqrt alo)
  have g2 := (sqrt_le_sqrt ahi).trans_eq (sqrt_sq_mul h1ρ.le _)
  obtain ⟨tm, tM⟩ := tolerance_ineq hρ0 hρ
  -- `x` the converted distance, `y = arcsin √a`.  `m·x ≤ y`, `M·y ≤ k·x` chain `x ~ E ~ √a ~ y`: `m`, `M`, `k`
  -- multiply the three steps' factors, and `tolerance_ineq` is what `ε = 3/2·ρ` then needs of them
  refine abs_sub_le_of_mul_le (sqrt_nonneg _)
    ((sqrt_nonneg _).trans hA0) h1ρ
    (mul_nonneg (by norm_num) hρ0) (m := (1 - ρ) * (1 - ρ ^ 2) * (1 - ρ ^ 2))
    (M := (1 - (3 * ρ) ^ 2) * (1 - ρ ^ 2)) ?_ ?_ tm tM
  · calc (1 - ρ) * (1 - ρ ^ 2) * (1 - ρ ^ 2) * √_
        = (1 - ρ) * (1 - ρ ^ 2) * ((1 - ρ ^ 2) * √_) := mul_assoc _ _ _
      _ ≤ (1 - ρ) * (1 - ρ ^ 2) * √_ :=
        mul_le_mul_of_nonneg_left c2 hm0
      _ ≤ √_ := g1
      _ ≤ _ := hA0
  · calc (1 - (3 * ρ) ^ 2) * (1 - ρ ^ 2) * arcsin _
        = (1 - ρ ^ 2) * (arcsin _ * (1 - (3 * ρ) ^ 2)) := by ring
      _ ≤ (1 - ρ ^ 2) * ((1 + ρ) * √_) := mul_le_mul_of_nonneg_left (hA1.trans g2) hθ0
      _ = (1 + ρ) * ((1 - ρ ^ 2) * √_) := mul_left_comm _ _ _
      _ ≤ (1 + ρ) * √_ := mul_le_mul_of_nonneg_left c1 h1ρ.le

/-- inverting `sin` near 0: `|x| ≤ s / (1 − r²)` from `|sin x| ≤ s`, for `|x| ≤ π/2` and
    `2s ≤ r`; first `|x| ≤ 2s` by Jordan's inequality, then the lower bound of `sin` there -/
theorem abs_mul_le_of_abs_sin_le {x s r : ℝ} (hx : |x| ≤ π / 2) (hs : |sin x| ≤ s)
    (h : 2 * s ≤ r) : |x| * (1 - r ^ 2) ≤ s :=
  (mul_le_abs_sin' ((abs_le_two_mul_abs_sin hx).trans
    ((mul_le_mul_of_nonneg_left hs zero_le_two).trans h))).trans hs

/-- A point whose haversine `a` from the reference is at most `δ²` (great-circle distance at most
    `2R·arcsin δ`) lies in the box `|Δφ| ≤ ε`, `cos φ₀·|Δλ| ≤ ε`, provided `2δ ≤ 9/10·ε` and
    `ε ≤ cos φ₀ / 10`: both terms of `a` are at most `δ²`, and `sin` is inverted near 0. -/
theorem box_of_havA_le {φ0 φ1 dl δ ε : ℝ} (hc : 0 < cos φ0) (hε : 10 * ε ≤ cos φ0)
    (hc1 : 0 ≤ cos φ1) (hφ : |φ1 - φ0| ≤ π) (hdl : |dl| ≤ π) (hδ0 : 0 ≤ δ)
    (hδ : 2 * δ ≤ 9 / 10 * ε) (ha : havA φ0 φ1 dl ≤ δ ^ 2) :
    |φ1 - φ0| ≤ ε ∧ cos φ0 * |dl| ≤ ε := by
  have hδ' : 2 * δ ≤ 1 / 10 := by
    linear_combination hδ + 9 / 100 * hε + 9 / 100 * cos_le_one φ0
  have hC : 0 ≤ cos φ0 * cos φ1 * sin (dl / 2) ^ 2 :=
    mul_nonneg (mul_nonneg hc.le hc1) (sq_nonneg _)
  -- latitude: `sin²(Δφ/2) ≤ a`
  have h1 := abs_mul_le_of_abs_sin_le (abs_div_two_le hφ)
    (abs_le_of_sq_le_sq ((le_add_of_nonneg_right hC).trans ha) hδ0) hδ'
  rw [abs_div_two] at h1
  -- `99/100·|Δφ| ≤ 2δ ≤ 9/10·ε`
  have hlat : |φ1 - φ0| ≤ ε := by
    linear_combination 20 / 9 * h1 + 10 / 9 * hδ + 1 / 10 * abs_nonneg (φ1 - φ0)
  refine ⟨hlat, ?_⟩
  -- longitude: `cos φ₀·cos φ₁·sin²(Δλ/2) ≤ a`, and `cos φ₁ ≥ 9/10·cos φ₀` by the latitude bound;
  -- `11/10` because `10/9 ≤ (11/10)²` and `11/10·9/10 = 1 − (1/10)²`, the factor of the inversion
  have hcos : 9 / 10 * cos φ0 ≤ cos φ1 := by
    linear_combination (abs_le.mp ((abs_cos_sub_cos_le φ1 φ0).trans hlat)).1 + 1 / 10 * hε
  have h2 : (cos φ0 * sin (dl / 2)) ^ 2 ≤ (11 / 10 * δ) ^ 2 :=
    calc (cos φ0 * sin (dl / 2)) ^ 2
        = 10 / 9 * (cos φ0 * (9 / 10 * cos φ0) * sin (dl / 2) ^ 2) := by ring
      _ ≤ 10 / 9 * (cos φ0 * cos φ1 * sin (dl / 2) ^ 2) :=
        mul_le_mul_of_nonneg_left (mul_le_mul_of_nonneg_right
          (mul_le_mul_of_nonneg_left hcos hc.le) (sq_nonneg _)) (by norm_num)
      _ ≤ 10 / 9 * δ ^ 2 :=
        mul_le_mul_of_nonneg_left ((le_add_of_nonneg_left (sq_nonneg _)).trans ha) (by norm_num)
      _ ≤ (11 / 10 * δ) ^ 2 := by
        rw [mul_pow]; exact mul_le_mul_of_nonneg_right (by norm_num) (sq_nonneg δ)
  have h3 := abs_le_of_sq_le_sq h2 (mul_nonneg (by norm_num) hδ0)
  rw [abs_mul, abs_of_pos hc] at h3
  -- `cos φ₀·2·|sin(Δλ/2)| ≤ 11/5·δ ≤ 99/100·ε ≤ 99/1000·cos φ₀`
  have h4 : 2 * |sin (dl / 2)| ≤ 1 / 10 := le_of_mul_le_mul_left
    (by linear_combination 2 * h3 + 11 / 10 * hδ + 99 / 1000 * hε + 1 / 1000 * hc.le) hc
  have h5 := mul_le_mul_of_nonneg_left
    (abs_mul_le_of_abs_sin_le (abs_div_two_le hdl) le_rfl h4) hc.le
  rw [abs_div_two] at h5
  -- `99/100·cos φ₀·|Δλ| ≤ 2·cos φ₀·|sin(Δλ/2)| ≤ 11/5·δ ≤ 99/100·ε`
  linear_combination 200 / 99 * h5 + 200 / 99 * h3 + 10 / 9 * hδ

/-- `x ↦ √(x² + h²)` is 1-Lipschitz: the reverse triangle inequality for `x + h·i` in `ℂ` -/
theorem abs_sqrt_sq_add_sub_le (a b h : ℝ) : |√(a ^ 2 + h ^ 2) - √(b ^ 2 + h ^ 2)| ≤ |a - b| := by
  have := abs_norm_sub_norm_le (⟨a, h⟩ : ℂ) ⟨b, h⟩
  rwa [Complex.norm_eq_sqrt_sq_add_sq, Complex.norm_eq_sqrt_sq_add_sq,
    Complex.norm_eq_sqrt_sq_add_sq, Complex.sub_re, Complex.sub_im, sub_self,
    zero_pow two_ne_zero, add_zero, sqrt_sq_eq_abs] at this

/-- a common third coordinate `h` does not increase the relative error of two horizontal
    distances -/
theorem abs_hypot_sub_le {x y h τ : ℝ} (hy : 0 ≤ y) (hτ : 0 ≤ τ) (hxy : |x - y| ≤ τ * y) :
    |√(x ^ 2 + h ^ 2) - √(y ^ 2 + h ^ 2)| ≤ τ * √(y ^ 2 + h ^ 2) :=
  (abs_sqrt_sq_add_sub_le x y h).trans (hxy.trans (mul_le_mul_of_nonneg_left
    ((sqrt_sq hy).symm.trans_le (sqrt_le_sqrt (le_add_of_nonneg_right (sq_nonneg h)))) hτ))

/-- `C20_small_offsets_box` with the box `ε ≤ cos φ₀/20` and the tolerance `3/2·ε/cos φ₀` as
    variables -/
theorem small_offsets_box (ref t1 t2 : V3 ℝ) {ε : ℝ} (hc : 0 < cos (rad ref.x))
    (hε : 20 * ε ≤ cos (rad ref.x))
    (h1u : |rad t1.x - rad ref.x| ≤ ε) (h1v : cos (rad ref.x) * |rad t1.y - rad ref.y| ≤ ε)
    (h2u : |rad t2.x - rad ref.x| ≤ ε) (h2v : cos (rad ref.x) * |rad t2.y - rad ref.y| ≤ ε) :
    |√(V3.sqdist (Geo.geoToCartesian ref t1) (Geo.geoToCartesian ref t2))
        - √(Geo.haversine t1.x t1.y t2.x t2.y ^ 2 + (t2.z - t1.z) ^ 2)|
      ≤ 3 / 2 * (ε / cos (rad ref.x))
          * √(Geo.haversine t1.x t1.y t2.x t2.y ^ 2 + (t2.z - t1.z) ^ 2) := by
  -- `ρ = ε / cos φ₀` is the size of the box in the terms of `small_offsets`
  have hρ0 : 0 ≤ ε / cos (rad ref.x) := div_nonneg ((abs_nonneg _).trans h1u) hc.le
  have hρ : ε / cos (rad ref.x) ≤ 1 / 20 := (div_le_iff₀ hc).mpr (by linear_combination 1 / 20 * hε)
  have hρc : ε / cos (rad ref.x) * cos (rad ref.x) = ε := div_mul_cancel₀ ε hc.ne'
  have hv : ∀ v : ℝ, cos (rad ref.x) * |v| ≤ ε → |v| ≤ ε / cos (rad ref.x) := fun v h =>
    (le_div_iff₀ hc).mpr ((mul_comm _ _).trans_le h)
  have hπ : ε / cos (rad ref.x) ≤ π := hρ.trans (by linear_combination two_le_pi)
  have hεπ : ε ≤ π := (hρc ▸ mul_le_of_le_one_right hρ0 (cos_le_one _)).trans hπ
  have core := small_offsets hρ hc.le (hρc.symm ▸ h1u) (hρc.symm ▸ h2u) (hv _ h1v) (hv _ h2v)
  rw [sub_sub_sub_cancel_right] at core
  -- both distances are `2R` times the quantities `core` compares, plus the altitude difference
  have hsq : V3.sqdist (Geo.geoToCartesian ref t1) (Geo.geoToCartesian ref t2)
      = (2 * R * √(((rad t2.x - rad t1.x) / 2) ^ 2
          + (arcsin (cos (rad ref.x) * sin ((rad t2.y - rad ref.y) / 2))
            - arcsin (cos (rad ref.x) * sin ((rad t1.y - rad ref.y) / 2))) ^ 2)) ^ 2
        + (t2.z - t1.z) ^ 2 := by
    rw [geoToCartesian_closed ref t1 hc.le (h1u.trans hεπ) ((hv _ h1v).trans hπ),
      geoToCartesian_closed ref t2 hc.le (h2u.trans hεπ) ((hv _ h2v).trans hπ), RealScalar.sqdist_eq,
      mul_pow, sq_sqrt (add_nonneg (sq_nonneg _) (sq_nonneg _))]
    ring
  rw [hsq, haversine_arcsin, ← mul_assoc R 2, mul_comm R 2]
  refine abs_hypot_sub_le
    (mul_nonneg two_R_pos.le (arcsin_nonneg.mpr (sqrt_nonneg _)))
    (mul_nonneg (by norm_num) hρ0) ?_
  rw [← mul_sub, abs_mul, abs_of_pos two_R_pos, mul_left_comm]
  exact mul_le_mul_of_nonneg_left core two_R_pos.le

theorem within_dist_in_box (ref t : V3 ℝ) {ε D : ℝ} (hφ : |rad ref.x| ≤ π / 2)
    (hc : 0 < cos (rad ref.x)) (hε : 10 * ε ≤ cos (rad ref.x))
    (ht : |rad t.x| ≤ π / 2) (hdl : |rad t.y - rad ref.y| ≤ π) (hD : D ≤ 9 / 10 * R * ε)
    (h : Geo.haversine ref.x ref.y t.x t.y ≤ D) :
    |rad t.x - rad ref.x| ≤ ε ∧ cos (rad ref.x) * |rad t.y - rad ref.y| ≤ ε := by
  -- `√a ≤ arcsin √a ≤ D / 2R`
  rw [haversine_arcsin] at h
  have hs : √(havA (rad ref.x) (rad t.x) (rad t.y - rad ref.y)) ≤ D / (2 * R) :=
    (sqrt_havA_le_arcsin _ _ _).trans
      ((le_div_iff₀ two_R_pos).mpr (by linear_combination h))
  have ha := pow_le_pow_left₀ (sqrt_nonneg _) hs 2
  rw [sq_sqrt (havA_nonneg _ _ _)] at ha
  have hδ : 2 * (D / (2 * R)) ≤ 9 / 10 * ε := by
    rw [← mul_div_assoc, mul_div_mul_left _ _ two_ne_zero, div_le_iff₀ R_pos]
    linear_combination hD
  exact box_of_havA_le hc hε (cos_nonneg_of_mem_Icc (abs_le.mp ht))
    ((abs_sub _ _).trans (by linear_combination hφ + ht)) hdl ((sqrt_nonneg _).trans hs) hδ ha

end GeoSmall
