import GradysProofs.Lemmas.SimInv
/-
  The mobility invariant behind C12: exactly one update event is queued, it is due at
  (number of executed updates + 1)·dt, every queued telemetry event is due NOW and carries its
  node's current position, and it precedes the next update.
-/
set_option linter.unusedSectionVars false

namespace Sim
variable {S σ : Type} [Scalar S]

def _root_.EvKind.isTick : EvKind S → Bool
  | .mobTick => true
  | _ => false

def _root_.EvKind.isTel : EvKind S → Bool
  | .telemetry _ _ => true
  | _ => false

def tickCount (w : World S σ) : Nat := (w.rexecuted.filter (fun e => e.kind.isTick)).length

structure MInv (cfg : Config S) (w : World S σ) : Prop where
  ticks : (w.loop.queue.filter (fun e => e.kind.isTick)).length = if cfg.hasMob then 1 else 0
  tel_now : ∀ e ∈ w.loop.queue, ∀ n p, e.kind = .telemetry n p → e.ts = w.loop.now ∧ w.pos n = p
  tick_after_tel : ∀ e ∈ w.loop.queue, e.kind.isTel = true →
    ∀ e' ∈ w.loop.queue, e'.kind.isTick = true → e.ts < e'.ts
  tick_time : ∀ e ∈ w.loop.queue, e.kind.isTick = true → e.ts = ((tickCount w : Nat) + 1) * cfg.dt
  /-- the k-th executed update ran at k·dt: `l2` holds the events executed before `e` -/
  exec_ticks : ∀ l1 e l2, w.rexecuted = l1 ++ e :: l2 → e.kind.isTick = true →
    e.ts = (((l2.filter (fun e => e.kind.isTick)).length : Nat) + 1) * cfg.dt

theorem tickCount_congr {w w' : World S σ} (h : w'.rexecuted = w.rexecuted) : tickCount w' = tickCount w := by
  unfold tickCount; rw [h]

theorem MInv.congr {cfg : Config S} {w w' : World S σ} (h : MInv cfg w) (h1 : w'.loop = w.loop)
    (h2 : w'.pos = w.pos) (h3 : w'.rexecuted = w.rexecuted) : MInv cfg w' := by
  constructor
  · rw [h1]; exact h.ticks
  · rw [h1, h2]; exact h.tel_now
  · rw [h1]; exact h.tick_after_tel
  · rw [h1, tickCount_congr h3]; exact h.tick_time
  · rw [h3]; exact h.exec_ticks

theorem MInv.sched {cfg : Config S} {w : World S σ} (h : MInv cfg w) (ts : Int) {k : EvKind S}
    (h1 : k.isTick = false) (h2 : k.isTel = false) : MInv cfg (sched ts k w) := by
  have hmem : ∀ x ∈ (Sim.sched ts k w).loop.queue, x.kind = k ∨ x ∈ w.loop.queue := fun x hx =>
    (mem_insertEv.mp hx).imp (fun e => by rw [e]) id
  constructor
  · rw [← h.ticks, sched_queue, ((insertEv_perm _ _).filter _).length_eq, List.filter_cons]
    simp [h1]
  · intro x hx n p hk
    rcases hmem x hx with hx | hx
    · rw [hx] at hk; rw [hk] at h2; cases h2
    · exact h.tel_now x hx n p hk
  · intro x hx hxt y hy hyt
    rcases hmem x hx with hx | hx
    · rw [hx, h2] at hxt; cases hxt
    · rcases hmem y hy with hy | hy
      · rw [hy, h1] at hyt; cases hyt
      · exact h.tick_after_tel x hx hxt y hy hyt
  · intro x hx hxt
    rcases hmem x hx with hx | hx
    · rw [hx, h1] at hxt; cases hxt
    · exact h.tick_time x hx hxt
  · exact h.exec_ticks

theorem MInv.prims (cfg : Config S) : Prims (σ := σ) cfg (Keeps (MInv cfg)) where
  refl := Keeps.refl
  trans := Keeps.trans
  arm _ _ _ _ _ h := (h.sched _ rfl rfl).congr rfl rfl rfl
  disarm _ _ _ h := h.congr rfl rfl rfl
  deliver _ _ _ _ h := h.sched _ rfl rfl
  draw _ _ h := h.congr rfl rfl rfl
  inert _ _ _ _ h := h.congr rfl rfl rfl

theorem MInv.lifecycle (cfg : Config S) : Lifecycle (σ := σ) cfg (Keeps (MInv cfg)) :=
  (MInv.prims cfg).lifecycle fun _ _ _ _ _ _ h => h.congr rfl rfl rfl

theorem MInv.exec_ticks_cons {cfg : Config S} {w : World S σ} (h : MInv cfg w) {e : Ev (EvKind S)}
    (he : e.kind.isTick = true → e.ts = ((tickCount w : Nat) + 1) * cfg.dt) :
    ∀ l1 x l2, e :: w.rexecuted = l1 ++ x :: l2 → x.kind.isTick = true →
      x.ts = (((l2.filter (fun e => e.kind.isTick)).length : Nat) + 1) * cfg.dt := by
  intro l1 x l2 hl hx
  cases l1 with
  | nil =>
    cases hl
    exact he hx
  | cons y l1 =>
    injection hl with _ h2
    exact h.exec_ticks l1 x l2 h2 hx

/-- While a mobility update runs — its event popped, the next one not yet scheduled, the nodes `ns` still to
    move — and before the first update is scheduled: no update event is queued, and every queued telemetry
    event is due now, for a node that has moved, carrying its new position. -/
structure Ticking (ns : List NodeId) (w : World S σ) : Prop where
  no_tick : ∀ e ∈ w.loop.queue, e.kind.isTick = false
  tel_now : ∀ e ∈ w.loop.queue, ∀ n p, e.kind = .telemetry n p → e.ts = w.loop.now ∧ w.pos n = p ∧ n ∉ ns

theorem Ticking.tickNode {cfg : Config S} {n : NodeId} {ns : List NodeId} {w : World S σ}
    (h : Ticking (n :: ns) w) (hn : n ∉ ns) : Ticking ns (Sim.tickNode cfg w n) := by
  constructor
  · intro x hx
    rcases mem_insertEv.mp hx with rfl | hx
    · rfl
    · exact h.no_tick x hx
  · intro x hx m p hk
    rcases mem_insertEv.mp hx with rfl | hx
    · cases hk
      exact ⟨rfl, upd_self _ _ _, hn⟩
    · -- an earlier telemetry is for a node that has moved already: another one
      obtain ⟨h1, h2, h3⟩ := h.tel_now x hx m p hk
      have hmn : m ≠ n := fun e => h3 (e ▸ List.mem_cons_self)
      exact ⟨h1, (upd_ne _ _ _ hmn).trans h2, fun hm => h3 (List.mem_cons_of_mem _ hm)⟩

theorem Ticking.tickNodes {cfg : Config S} {ns : List NodeId} (hnd : ns.Nodup) {w : World S σ} (h : Ticking ns w) :
    Ticking [] (ns.foldl (Sim.tickNode cfg) w) := by
  induction ns generalizing w with
  | nil => exact h
  | cons n ns ih => exact ih (List.nodup_cons.mp hnd).2 (h.tickNode (List.nodup_cons.mp hnd).1)

/-- scheduling the next update, later than the queued telemetry, restores the invariant -/
theorem Ticking.sched_tick {cfg : Config S} {w : World S σ} (h : Ticking [] w) (hm : cfg.hasMob = true) {ts : Int}
    (hlt : ∀ e ∈ w.loop.queue, e.kind.isTel = true → e.ts < ts)
    (hts : ts = ((tickCount w : Nat) + 1) * cfg.dt)
    (hex : ∀ l1 e l2, w.rexecuted = l1 ++ e :: l2 → e.kind.isTick = true →
      e.ts = (((l2.filter (fun e => e.kind.isTick)).length : Nat) + 1) * cfg.dt) :
    MInv cfg (sched ts .mobTick w) := by
  have hmem : ∀ x ∈ (sched ts .mobTick w).loop.queue,
      x = ⟨ts, w.loop.nextSeq, .mobTick⟩ ∨ x ∈ w.loop.queue := fun x hx => mem_insertEv.mp hx
  constructor
  · have h0 : w.loop.queue.filter (fun e => e.kind.isTick) = [] :=
      List.filter_eq_nil_iff.mpr (fun x hx => by simp [h.no_tick x hx])
    rw [sched_queue, ((insertEv_perm _ _).filter _).length_eq, List.filter_cons, h0, hm]
    rfl
  · intro x hx n p hk
    rcases hmem x hx with rfl | hx
    · cases hk
    · exact ⟨(h.tel_now x hx n p hk).1, (h.tel_now x hx n p hk).2.1⟩
  · intro x hx hxt y hy hyt
    rcases hmem y hy with rfl | hy
    · rcases hmem x hx with rfl | hx
      · cases hxt
      · exact hlt x hx hxt
    · rw [h.no_tick y hy] at hyt; cases hyt
  · intro x hx hxt
    rcases hmem x hx with rfl | hx
    · exact hts
    · rw [h.no_tick x hx] at hxt; cases hxt
  · exact hex

section pop
variable {cfg : Config S} {e : Ev (EvKind S)} {rest : List (Ev (EvKind S))} {w : World S σ}

/-- the telemetry behind a head that is no update is due now, so the head is too -/
theorem MInv.pop (h : MInv cfg w) (hq : w.loop.queue = e :: rest) (hnow : w.loop.now ≤ e.ts)
    (hhead : ∀ x ∈ rest, e.ts ≤ x.ts) (hk : e.kind.isTick = false) : MInv cfg (popped e rest w) := by
  have hmem : ∀ x, x ∈ rest → x ∈ w.loop.queue := fun x hx => by rw [hq]; exact List.mem_cons_of_mem _ hx
  have htc : tickCount (popped e rest w) = tickCount w := by
    unfold tickCount; rw [popped_rexecuted, List.filter_cons, hk]; rfl
  constructor
  · rw [← h.ticks, hq, List.filter_cons, hk]; rfl
  · intro x hx n p hkx
    obtain ⟨h1, h2⟩ := h.tel_now x (hmem x hx) n p hkx
    refine ⟨?_, h2⟩
    rw [popped_now]
    have := hhead x hx
    omega
  · intro x hx hxt y hy hyt
    exact h.tick_after_tel x (hmem x hx) hxt y (hmem y hy) hyt
  · intro x hx hxt
    rw [htc]; exact h.tick_time x (hmem x hx) hxt
  · exact h.exec_ticks_cons (fun hc => by rw [hk] at hc; cases hc)

/-- behind the update being executed neither another update nor a telemetry event is queued -/
theorem MInv.mobTick_popped (hdt : 0 < cfg.dt) (h : MInv cfg w) (hq : w.loop.queue = e :: rest)
    (hhead : ∀ x ∈ rest, e.ts ≤ x.ts) (hk : e.kind.isTick = true) : MInv cfg (mobTick cfg (popped e rest w)) := by
  have he : e ∈ w.loop.queue := by rw [hq]; exact List.mem_cons_self
  have hticks := h.ticks
  rw [hq, List.filter_cons, if_pos hk] at hticks
  have hmob : cfg.hasMob = true := by
    cases hm : cfg.hasMob with
    | true => rfl
    | false => rw [hm] at hticks; cases hticks
  have hstart : Ticking (List.range cfg.nNodes) (popped e rest w) := by
    refine ⟨fun x hx => ?_, fun x hx n p hkx => ?_⟩
    · rw [hmob] at hticks
      have hnil : rest.filter (fun e => e.kind.isTick) = [] :=
        List.eq_nil_of_length_eq_zero (Nat.succ.inj hticks)
      simpa using List.filter_eq_nil_iff.mp hnil x hx
    · have h1 := h.tick_after_tel x (by rw [hq]; exact List.mem_cons_of_mem _ hx) (by rw [hkx]; rfl) e he hk
      exact absurd (hhead x hx) (Int.not_le.mpr h1)
  have hmoved := hstart.tickNodes (cfg := cfg) List.nodup_range
  have hext := (Ext.lifecycle cfg).foldl (tickNode cfg) (fun _ _ => .of_eq rfl rfl rfl) (List.range cfg.nNodes)
    (popped e rest w)
  have htime : e.ts = ((tickCount w : Nat) + 1) * cfg.dt := h.tick_time e he hk
  rw [mobTick_eq]
  refine hmoved.sched_tick hmob (fun x hx hxt => ?_) ?_ ?_
  · cases hkx : x.kind with
    | telemetry n p =>
      rw [(hmoved.tel_now x hx n p hkx).1, hext.now, popped_now]
      omega
    | _ => rw [hkx] at hxt; cases hxt
  · have htc : tickCount (popped e rest w) = tickCount w + 1 := by
      unfold tickCount; rw [popped_rexecuted, List.filter_cons, hk]; rfl
    rw [hext.now, tickCount_congr hext.rexecuted, htc, popped_now, htime]
    push_cast
    simp only [Int.add_mul, Int.one_mul]
  · rw [hext.rexecuted]
    exact h.exec_ticks_cons (fun _ => htime)

theorem MInv.execEv_popped (hdt : 0 < cfg.dt) (P : NodeId → Proto S σ) (h : MInv cfg w) (hw : WInv w)
    (hq : w.loop.queue = e :: rest) : MInv cfg (execEv cfg P e (popped e rest w)) := by
  have hhead : ∀ x ∈ rest, e.ts ≤ x.ts := fun x hx =>
    keyLt_ts_le (sorted_head_least (hq ▸ hw.sorted : (e :: rest).Pairwise keyLt) x hx)
  have hpop := h.pop hq (hw.ge_now e (hq ▸ List.mem_cons_self)) hhead
  exact execEv_cases cfg P e _
    (fun n _ _ hk _ => (MInv.lifecycle cfg).callback P n _ _ ((hpop (hk ▸ rfl)).congr rfl rfl rfl))
    (fun _ _ _ hk _ => hpop (hk ▸ rfl))
    (fun dst _ _ hk => (MInv.lifecycle cfg).callback P dst _ _ (hpop (hk ▸ rfl)))
    (fun hk => h.mobTick_popped hdt hq hhead (hk ▸ rfl))
    (fun n _ hk => (MInv.lifecycle cfg).callback P n _ _ (hpop (hk ▸ rfl)))

end pop

theorem init_minv (cfg : Config S) (P : NodeId → Proto S σ) : MInv cfg (init cfg P) := by
  -- not by `init_ind`: the step from `init0` needs `cfg.hasMob = true`, which only the branch gives
  rw [init_eq]
  cases hm : cfg.hasMob with
  | false =>
    simp only [Bool.false_eq_true, if_false]
    constructor <;> simp [init0, EL.empty, hm]
  | true =>
    rw [if_pos rfl]
    have h0 : Ticking [] (init0 cfg P) := ⟨fun _ hx => (nomatch hx), fun _ hx => (nomatch hx)⟩
    exact h0.sched_tick hm (fun _ hx => (nomatch hx)) (by simp [tickCount, init0])
      (fun l1 x l2 hl => by simp [init0] at hl)

theorem reachableT_minv {cfg : Config S} (hdt : 0 < cfg.dt) {P : NodeId → Proto S σ} {w : World S σ}
    (h : ReachableT cfg P w) : MInv cfg w :=
  (MInv.lifecycle cfg).reachableT_winv (Int.le_of_lt hdt) (init_minv cfg P)
    (fun _ _ _ hw hm hq _ => hm.execEv_popped hdt P hw hq) h

theorem initWith_minv (cfg : Config S) (P : NodeId → Proto S σ) (pre : List (NodeId × Prog S σ)) :
    MInv cfg (initWith cfg P pre) :=
  -- not through `reachable_minv`, which needs `0 < cfg.dt`: no step is taken here
  initWith_induction (init_minv cfg P) (fun n p w => (MInv.lifecycle cfg).runProg n p w) pre

theorem reachable_minv {cfg : Config S} (hdt : 0 < cfg.dt) {P : NodeId → Proto S σ} {w : World S σ}
    (h : Reachable cfg P w) : MInv cfg w := reachableT_minv hdt h.toT

end Sim
