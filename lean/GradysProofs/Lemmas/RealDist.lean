import GradysProofs.RealScalar
import GradysModel.Mobility
/-
  General facts about the real instance used by the motion, range and camera theorems (C09, C11,
  C19): the Euclidean distance of two `V3 ℝ` points as the code computes it (`sqrt` of `V3.sqdist`),
  and the mobility step over ℝ in terms of it.
  The distance has four names, all one function up to `rfl`: for every scalar `C11.codeDist` and
  `Camera.cdist`, over ℝ `RealScalar.edist3` (C09, C11) and `Camera.edist3` (C19, where `open Camera`
  makes it the bare `edist3`).  Bridges: `C11.codeDist_real`, `Camera.cdist_real`,
  `Camera.edist3_eq_realScalar`, `edist3_eq_sqrt_sqdist`.
-/
namespace RealScalar
open Real

/-- Euclidean distance of two points, in the operation order of the code:
    `math.sqrt((b.x-a.x)**2 + (b.y-a.y)**2 + (b.z-a.z)**2)` -/
noncomputable def edist3 (a b : V3 ℝ) : ℝ :=
  Real.sqrt ((b.x - a.x) ^ 2 + (b.y - a.y) ^ 2 + (b.z - a.z) ^ 2)

theorem sqdist_nonneg (a b : V3 ℝ) : 0 ≤ V3.sqdist a b :=
  add_nonneg (add_nonneg (sq_nonneg _) (sq_nonneg _)) (sq_nonneg _)

theorem edist3_eq_sqrt_sqdist (a b : V3 ℝ) : edist3 a b = Real.sqrt (V3.sqdist a b) := rfl

theorem edist3_nonneg (a b : V3 ℝ) : 0 ≤ edist3 a b := Real.sqrt_nonneg _

theorem edist3_sq (a b : V3 ℝ) :
    edist3 a b ^ 2 = (b.x - a.x) ^ 2 + (b.y - a.y) ^ 2 + (b.z - a.z) ^ 2 :=
  Real.sq_sqrt (sqdist_nonneg a b)

theorem edist3_eq_of_sq {a b : V3 ℝ} {r : ℝ} (hr : 0 ≤ r)
    (h : (b.x - a.x) ^ 2 + (b.y - a.y) ^ 2 + (b.z - a.z) ^ 2 = r ^ 2) : edist3 a b = r :=
  (congrArg Real.sqrt h).trans (Real.sqrt_sq hr)

theorem edist3_self (a : V3 ℝ) : edist3 a a = 0 :=
  edist3_eq_of_sq le_rfl (by ring)

theorem edist3_comm (a b : V3 ℝ) : edist3 a b = edist3 b a := by
  unfold edist3; congr 1; ring

theorem abs_sub_le_edist3 (a b : V3 ℝ) :
    |b.x - a.x| ≤ edist3 a b ∧ |b.y - a.y| ≤ edist3 a b ∧ |b.z - a.z| ≤ edist3 a b :=
  ⟨abs_le_sqrt ((le_add_of_nonneg_right (sq_nonneg _)).trans (le_add_of_nonneg_right (sq_nonneg _))),
   abs_le_sqrt ((le_add_of_nonneg_left (sq_nonneg _)).trans (le_add_of_nonneg_right (sq_nonneg _))),
   abs_le_sqrt (le_add_of_nonneg_left (add_nonneg (sq_nonneg _) (sq_nonneg _)))⟩

theorem edist3_eq_zero_iff (a b : V3 ℝ) : edist3 a b = 0 ↔ a = b := by
  refine ⟨fun h => ?_, fun h => h ▸ edist3_self a⟩
  obtain ⟨hx, hy, hz⟩ := abs_sub_le_edist3 a b
  rw [h] at hx hy hz
  exact V3.ext (eq_of_abs_sub_nonpos hx).symm (eq_of_abs_sub_nonpos hy).symm
    (eq_of_abs_sub_nonpos hz).symm

theorem edist3_of_smul (a b p q : V3 ℝ) (k : ℝ) (hk : 0 ≤ k) (hx : q.x - p.x = k * (b.x - a.x))
    (hy : q.y - p.y = k * (b.y - a.y)) (hz : q.z - p.z = k * (b.z - a.z)) :
    edist3 p q = k * edist3 a b := by
  unfold edist3
  rw [hx, hy, hz, mul_pow, mul_pow, mul_pow, ← mul_add, ← mul_add, Real.sqrt_mul (sq_nonneg k),
    Real.sqrt_sq hk]

/-- moving by `min m d` from the remaining distance `d = max 0 y` leaves `max 0 (y − m)` -/
theorem max_zero_sub_min {y m : ℝ} (hm : 0 ≤ m) : max 0 y - min m (max 0 y) = max 0 (y - m) := by
  rw [← max_sub_sub_left, sub_self, ← max_sub_sub_right, max_comm (0 - m), max_assoc,
    max_eq_right (show 0 - m ≤ 0 by rwa [zero_sub, neg_nonpos]), max_comm]

theorem _root_.Mobility.step_real (dtS : ℝ) (cur tgt : V3 ℝ) (speed : ℝ) :
    Mobility.step dtS cur (some tgt) speed =
      if edist3 cur tgt ≤ speed * dtS then tgt
      else ⟨cur.x + (tgt.x - cur.x) * (speed * dtS / edist3 cur tgt),
            cur.y + (tgt.y - cur.y) * (speed * dtS / edist3 cur tgt),
            cur.z + (tgt.z - cur.z) * (speed * dtS / edist3 cur tgt)⟩ := by
  unfold Mobility.step edist3
  simp only [ge_eq, sub_eq, mul_eq, add_eq, sq_eq, sqrt_eq, div_eq]

end RealScalar
