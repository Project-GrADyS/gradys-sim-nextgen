import GradysProofs.Lemmas.SimLift
import GradysProofs.Lemmas.ELHist
/-
  The core run invariant `WInv` — the history invariant of the bare event loop (`Lemmas/ELHist`) read on
  the world's loop and ghost lists —, the frame relation `Ext` (clock, executed events, reported times:
  what nothing but the pop changes), and `WInv` in every world a driver reaches.  In lemma names `_inv`
  without a letter means `WInv` (`_tinv`, `_pinv`, `_minv`, `_linv`, `_binv` are the other invariants).
-/

set_option linter.unusedSectionVars false

namespace Sim
variable {S σ : Type} [Scalar S]

structure WInv (w : World S σ) : Prop where
  sorted : w.loop.queue.Pairwise keyLt
  ge_now : ∀ e ∈ w.loop.queue, w.loop.now ≤ e.ts
  seq_lt : ∀ e ∈ w.loop.queue, e.seq < w.loop.nextSeq
  perm : (w.rexecuted ++ w.loop.queue).Perm w.raccepted
  exec_lt_queue : ∀ a ∈ w.rexecuted, ∀ b ∈ w.loop.queue, keyLt a b
  /-- executed events (newest first) are strictly decreasing in (ts, seq) -/
  exec_sorted : w.rexecuted.Pairwise (fun a b => keyLt b a)
  exec_le_now : ∀ a ∈ w.rexecuted, a.ts ≤ w.loop.now
  exec_seq_lt : ∀ a ∈ w.rexecuted, a.seq < w.loop.nextSeq
  /-- sequence numbers reflect request order: accepted requests (newest first) have strictly
      decreasing `seq` -/
  acc_sorted : w.raccepted.Pairwise (fun a b => b.seq < a.seq)
  acc_seq_lt : ∀ a ∈ w.raccepted, a.seq < w.loop.nextSeq

/-- From `w` to `w'` the clock and the executed events are untouched, and every protocol callback
    observed meanwhile reports the time `reportedTime cfg w`.  Holds along everything but the pop. -/
structure Ext (cfg : Config S) (w w' : World S σ) : Prop where
  now : w'.loop.now = w.loop.now
  rexecuted : w'.rexecuted = w.rexecuted
  trace_ext : ∃ l, w'.rtrace = l ++ w.rtrace ∧
    ∀ n cb t, Obs.callback n cb t ∈ l → t = reportedTime cfg w

theorem Ext.of_eq {cfg : Config S} {w w' : World S σ} (h1 : w'.loop.now = w.loop.now)
    (h2 : w'.rexecuted = w.rexecuted) (h3 : w'.rtrace = w.rtrace) : Ext cfg w w' :=
  ⟨h1, h2, [], h3, by simp⟩

theorem ext_log (cfg : Config S) (o : Obs S) (w : World S σ)
    (ho : ∀ n cb t, o = Obs.callback n cb t → t = reportedTime cfg w) : Ext cfg w (log o w) :=
  ⟨rfl, rfl, [o], rfl, fun n cb t hm => ho n cb t (List.mem_singleton.mp hm).symm⟩

theorem Ext.trans {cfg : Config S} {a b c : World S σ} (h1 : Ext cfg a b) (h2 : Ext cfg b c) :
    Ext cfg a c where
  now := h2.now.trans h1.now
  rexecuted := h2.rexecuted.trans h1.rexecuted
  trace_ext := by
    obtain ⟨l1, e1, t1⟩ := h1.trace_ext
    obtain ⟨l2, e2, t2⟩ := h2.trace_ext
    refine ⟨l2 ++ l1, by rw [e2, e1, List.append_assoc], ?_⟩
    intro n cb t hm
    rcases List.mem_append.mp hm with hm | hm
    · rw [t2 n cb t hm]; exact reportedTime_congr cfg h1.now
    · exact t1 n cb t hm

theorem Ext.lifecycle (cfg : Config S) : Lifecycle (σ := σ) cfg (Ext cfg) where
  refl _ := .of_eq rfl rfl rfl
  trans := Ext.trans
  req n r w :=
    have f := (ReqFrame.prims cfg).execReq n r w
    (Ext.of_eq f.now f.rexecuted f.rtrace).trans (ext_log cfg _ _ (fun _ _ _ e => by cases e))
  cb n c w := ext_log cfg _ w (fun _ _ _ e => by injection e with _ _ e; exact e.symm)
  ret _ _ := .of_eq rfl rfl rfl
  hook o w ho := ext_log cfg o w (fun _ _ _ e => by subst e; cases ho)
  flags _ _ _ _ := .of_eq rfl rfl rfl

theorem ext_execEv (cfg : Config S) (P : NodeId → Proto S σ) (e : Ev (EvKind S)) (w : World S σ) :
    Ext cfg w (execEv cfg P e w) :=
  (Ext.lifecycle cfg).execEv (fun _ _ => .of_eq rfl rfl rfl)
    ((Ext.lifecycle cfg).mobTick (fun _ _ => .of_eq rfl rfl rfl) (fun _ => .of_eq rfl rfl rfl)) P e w

theorem WInv.congr {w w' : World S σ} (h : WInv w) (hl : w'.loop = w.loop)
    (he : w'.rexecuted = w.rexecuted) (ha : w'.raccepted = w.raccepted) : WInv w' := by
  constructor
  · rw [hl]; exact h.sorted
  · rw [hl]; exact h.ge_now
  · rw [hl]; exact h.seq_lt
  · rw [hl, he, ha]; exact h.perm
  · rw [hl, he]; exact h.exec_lt_queue
  · rw [he]; exact h.exec_sorted
  · rw [hl, he]; exact h.exec_le_now
  · rw [hl, he]; exact h.exec_seq_lt
  · rw [ha]; exact h.acc_sorted
  · rw [hl, ha]; exact h.acc_seq_lt

/-- the event loop of a world with its two ghost lists, read as the state of an `EventLoop` API history
    in which nothing was ever dropped -/
def hist (w : World S σ) : ELG (EvKind S) := ⟨w.loop, w.rexecuted, w.raccepted, []⟩

theorem winv_iff (w : World S σ) :
    WInv w ↔ ELG.Inv (hist w) ∧ w.raccepted.Pairwise (fun a b => b.seq < a.seq) ∧
      ∀ a ∈ w.raccepted, a.seq < w.loop.nextSeq :=
  ⟨fun h => ⟨⟨h.sorted, h.ge_now, h.seq_lt, by simpa [hist] using h.perm, h.exec_lt_queue, h.exec_sorted,
      h.exec_le_now, h.exec_seq_lt⟩, h.acc_sorted, h.acc_seq_lt⟩,
   fun ⟨h, h1, h2⟩ => ⟨h.sorted, h.ge_now, h.seq_lt, by simpa [hist] using h.perm, h.popped_lt_queue,
      h.popped_sorted, h.popped_le_now, h.popped_seq_lt, h1, h2⟩⟩

/-- an accepted scheduling request for a time that is not in the past is `schedule_event` -/
theorem WInv.sched {w : World S σ} (h : WInv w) (ts : Int) (k : EvKind S) (hts : w.loop.now ≤ ts) :
    WInv (sched ts k w) := by
  obtain ⟨hi, h1, h2⟩ := (winv_iff w).mp h
  have he : hist (Sim.sched ts k w) = (hist w).apply (.schedule ts k) := by
    rw [ELG.apply_schedule]
    exact (if_neg (Int.not_lt.mpr hts)).symm
  refine (winv_iff _).mpr ⟨he ▸ ELG.apply_inv _ _ hi, List.pairwise_cons.mpr ⟨h2, h1⟩, ?_⟩
  exact List.forall_mem_cons.mpr ⟨Nat.lt_succ_self _, fun a ha => Nat.lt_succ_of_lt (h2 a ha)⟩

theorem WInv.prims (cfg : Config S) : Prims (σ := σ) cfg (Keeps WInv) where
  refl := Keeps.refl
  trans := Keeps.trans
  arm _ _ _ _ hts h := (h.sched _ _ hts).congr rfl rfl rfl
  disarm _ _ _ h := h.congr rfl rfl rfl
  deliver _ _ _ w h := h.sched _ _ (deliverTime_ge cfg w)
  draw _ _ h := h.congr rfl rfl rfl
  inert _ _ _ _ h := h.congr rfl rfl rfl

theorem WInv.lifecycle (cfg : Config S) : Lifecycle (σ := σ) cfg (Keeps WInv) :=
  (WInv.prims cfg).lifecycle fun _ _ _ _ _ _ h => h.congr rfl rfl rfl

theorem WInv.mobTick {cfg : Config S} (hdt : 0 ≤ cfg.dt) {w : World S σ} (h : WInv w) :
    WInv (mobTick cfg w) :=
  (WInv.lifecycle cfg).mobTick
    ((WInv.lifecycle cfg).tickNode (fun _ _ h => h.congr rfl rfl rfl) (fun _ _ _ h => h.sched _ _ (Int.le_refl _)))
    (fun _ h => h.sched _ _ (by omega)) w h

theorem WInv.execEv {cfg : Config S} (hdt : 0 ≤ cfg.dt) (P : NodeId → Proto S σ) (e : Ev (EvKind S))
    {w : World S σ} (h : WInv w) : WInv (execEv cfg P e w) :=
  (WInv.lifecycle cfg).execEv (fun _ _ h => h.congr rfl rfl rfl) (fun _ h => h.mobTick hdt) P e w h

/-- the pop at the start of a step is `pop_event` -/
theorem popped_inv {e : Ev (EvKind S)} {rest : List (Ev (EvKind S))} {w : World S σ}
    (h : WInv w) (hq : w.loop.queue = e :: rest) : WInv (popped e rest w) := by
  obtain ⟨hi, h1, h2⟩ := (winv_iff w).mp h
  have he : hist (popped e rest w) = (hist w).apply .pop := by
    rw [ELG.apply_pop_cons (hist w) hq]
    rfl
  exact (winv_iff _).mpr ⟨he ▸ ELG.apply_inv _ _ hi, h1, h2⟩

theorem WInv.execEv_popped {cfg : Config S} (hdt : 0 ≤ cfg.dt) (P : NodeId → Proto S σ) {e : Ev (EvKind S)}
    {rest : List (Ev (EvKind S))} {w : World S σ} (h : WInv w) (hq : w.loop.queue = e :: rest) :
    WInv (Sim.execEv cfg P e (popped e rest w)) := (popped_inv h hq).execEv hdt P e

theorem WInv.sortedTs {w : World S σ} (h : WInv w) : SortedTs w.loop.queue :=
  List.Pairwise.imp keyLt_ts_le h.sorted

theorem WInv.executed_sorted {w : World S σ} (h : WInv w) : w.executed.Pairwise keyLt :=
  List.pairwise_reverse.mpr h.exec_sorted

theorem WInv.executed_mono {w : World S σ} (h : WInv w) : w.executed.Pairwise (fun a b => a.ts ≤ b.ts) :=
  h.executed_sorted.imp keyLt_ts_le

theorem init_inv (cfg : Config S) (P : NodeId → Proto S σ) (hdt : 0 ≤ cfg.dt) : WInv (init cfg P) :=
  init_ind (by constructor <;> simp [init0, EL.empty]) (fun h0 => h0.sched _ _ hdt)

theorem execStep_ext (cfg : Config S) (P : NodeId → Proto S σ) (e : Ev (EvKind S))
    (rest : List (Ev (EvKind S))) (w : World S σ) : Ext cfg (popped e rest w) (execStep cfg P e rest w) :=
  (ext_execEv cfg P e _).trans ((Ext.lifecycle cfg).hooks e.ts _)

theorem WInv.lifecycle_clock (cfg : Config S) (t : Int) :
    Lifecycle (σ := σ) cfg (Keeps fun x => WInv x ∧ t ≤ x.loop.now) :=
  (WInv.lifecycle cfg).and ((Ext.lifecycle cfg).keeps fun e h => e.now ▸ h)

/-- the pop moves the clock to the head's due time, which is not in the past -/
theorem WInv.execEv_popped_clock {cfg : Config S} (hdt : 0 ≤ cfg.dt) (P : NodeId → Proto S σ) {t : Int}
    {e : Ev (EvKind S)} {rest : List (Ev (EvKind S))} {w : World S σ} (h : WInv w ∧ t ≤ w.loop.now)
    (hq : w.loop.queue = e :: rest) :
    WInv (Sim.execEv cfg P e (popped e rest w)) ∧ t ≤ (Sim.execEv cfg P e (popped e rest w)).loop.now :=
  ⟨h.1.execEv_popped hdt P hq, by
    rw [(ext_execEv cfg P e _).now, popped_now]
    exact Int.le_trans h.2 (h.1.ge_now e (hq ▸ List.mem_cons_self))⟩

theorem step_inv (cfg : Config S) (hdt : 0 ≤ cfg.dt) (P : NodeId → Proto S σ) (w : World S σ)
    (h : WInv w) : WInv (step cfg P w).1 ∧ w.loop.now ≤ (step cfg P w).1.loop.now :=
  step_keeps ((WInv.lifecycle_clock cfg _).prep P) (fun x hx _ _ => (WInv.lifecycle_clock cfg _).finalise P x hx)
    (fun _ e _ hx _ _ hq _ => (WInv.lifecycle_clock cfg _).hooks e.ts _ (WInv.execEv_popped_clock hdt P hx hq))
    ⟨h, Int.le_refl _⟩

theorem stepRaised_inv (cfg : Config S) (hdt : 0 ≤ cfg.dt) (P : NodeId → Proto S σ) (w : World S σ)
    (h : WInv w) : WInv (stepRaised cfg P w) ∧ w.loop.now ≤ (stepRaised cfg P w).loop.now :=
  stepRaised_keeps ((WInv.lifecycle_clock cfg _).prep P) ((WInv.lifecycle_clock cfg _).finalise P)
    (fun _ _ _ hx hq _ => WInv.execEv_popped_clock hdt P hx hq) ⟨h, Int.le_refl _⟩

theorem steps_inv (cfg : Config S) (hdt : 0 ≤ cfg.dt) (P : NodeId → Proto S σ) (n : Nat)
    (w : World S σ) (h : WInv w) :
    WInv (steps cfg P n w) ∧ w.loop.now ≤ (steps cfg P n w).loop.now := by
  induction n generalizing w with
  | zero => exact ⟨h, Int.le_refl _⟩
  | succ n ih =>
    have h1 := step_inv cfg hdt P w h
    have h2 := ih _ h1.1
    exact ⟨h2.1, Int.le_trans h1.2 h2.2⟩

theorem ext_initWith (cfg : Config S) (P : NodeId → Proto S σ) (pre : List (NodeId × Prog S σ)) :
    Ext cfg (init cfg P) (initWith cfg P pre) :=
  initWith_induction (C := fun w => Ext cfg (init cfg P) w) ((Ext.lifecycle cfg).refl _)
    (fun n p w h => h.trans ((Ext.lifecycle cfg).runProg n p w)) pre

/-- `Lifecycle.reachableT` for an `I` whose step through the pop needs `WInv` of the world before it -/
theorem Lifecycle.reachableT_winv {cfg : Config S} {P : NodeId → Proto S σ} {I : World S σ → Prop}
    (h : Lifecycle cfg (Keeps I)) (hdt : 0 ≤ cfg.dt) (h0 : I (init cfg P))
    (hexec : ∀ w e rest, WInv w → I w → w.loop.queue = e :: rest → isDone cfg w = false →
      I (Sim.execEv cfg P e (popped e rest w)))
    {w : World S σ} (hr : ReachableT cfg P w) : I w :=
  (((WInv.lifecycle cfg).and h).reachableT ⟨init_inv cfg P hdt, h0⟩
    (fun w e rest hw hq hd => ⟨hw.1.execEv_popped hdt P hq, hexec w e rest hw.1 hw.2 hq hd⟩) hr).2

theorem reachableT_inv {cfg : Config S} (hdt : 0 ≤ cfg.dt) {P : NodeId → Proto S σ} {w : World S σ}
    (h : ReachableT cfg P w) : WInv w :=
  (WInv.lifecycle cfg).reachableT (init_inv cfg P hdt) (fun _ _ _ hw hq _ => hw.execEv_popped hdt P hq) h

theorem reachable_inv {cfg : Config S} (hdt : 0 ≤ cfg.dt) {P : NodeId → Proto S σ} {w : World S σ}
    (h : Reachable cfg P w) : WInv w := reachableT_inv hdt h.toT

theorem initWith_inv (cfg : Config S) (P : NodeId → Proto S σ) (hdt : 0 ≤ cfg.dt)
    (pre : List (NodeId × Prog S σ)) : WInv (initWith cfg P pre) :=
  reachable_inv hdt (reachable_initWith cfg P pre)

end Sim
