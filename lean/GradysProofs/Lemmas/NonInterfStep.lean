import GradysProofs.Lemmas.NonInterf
import GradysProofs.Lemmas.Medium
/-
  The two unwinding conditions of C13, on single events.

  * `Hid x w w'`: `w'` results from `w` by actions that are invisible to the nodes other than `x`.
    Everything the silent node `x` does is of this kind (U1).  It is proved action by action and is no
    `Handler` instance (Lemmas/SimLift.lean): a `Handler` relation holds along the requests and callbacks
    of every node and every program, `Hid x` only along those of node `x`, and only if `x` is silent.
  * `Sync cfg n R` is the two-run counterpart of `Prims` and `Handler`: one field per primitive update,
    except that a transmission is one field as a whole (the copy addressed to `x` may be scheduled in one
    run only, so the two runs do not make the same primitive updates: `cong_transmit`); `R` then holds
    along `execReq`, `runProg`, `callback` (for `schedule_timer` only if the two clocks agree).  `Cong x`
    is `Sync` for every `n ≠ x`, which gives U2.
-/
set_option linter.unusedSectionVars false

namespace Sim
variable {S σ : Type} [Scalar S] (cfg : Config S) (P P₁ P₂ : NodeId → Proto S σ)

/-- no `schedule_timer` on any branch of the interaction tree -/
def _root_.Prog.noSetTimer : Prog S σ → Prop
  | .done _ => True
  | .req r k => r.isSetTimer = false ∧ ∀ b, (k b).noSetTimer

/-- No event is popped along `Hid`.  `sorted` is by time alone (`SortedTs`, Lemmas/Queue.lean) and not
    `WInv.sorted` (by time, then sequence number): `insertEv_sortedTs` has no hypothesis on the new event, and
    in the middle of a callback nothing relates its time to `now` or its number to `nextSeq`, as `WInv.sched`
    and `insertEv_sorted` want.  `Cong` carries `SortedTs` for the same reason. -/
structure Hid (x : NodeId) (w w' : World S σ) : Prop where
  view : ViewEq x w w'
  now : w'.loop.now = w.loop.now
  sorted : SortedTs w.loop.queue → SortedTs w'.loop.queue

theorem Hid.refl (x : NodeId) (w : World S σ) : Hid x w w := ⟨ViewEq.refl x w, rfl, id⟩

theorem Hid.trans {x : NodeId} {a b c : World S σ} (h1 : Hid x a b) (h2 : Hid x b c) : Hid x a c :=
  ⟨h1.view.trans h2.view, h2.now.trans h1.now, fun h => h2.sorted (h1.sorted h)⟩

theorem hid_sched (x : NodeId) (ts : Int) (k : EvKind S) (hk : xowned x k = true) (w : World S σ) :
    Hid x w (sched ts k w) :=
  -- `{ ViewEq.refl x w with f := … }` has type `ViewEq x w w'` for the updated world `w'` because every
  -- field that is not named speaks of a component of `w'` that is, by unfolding `w'`, that of `w`
  ⟨{ ViewEq.refl x w with queue := (qview_insert_owned x _ _ hk).symm }, rfl, insertEv_sortedTs _ _⟩

theorem hid_log (x : NodeId) (o : Obs S) (ho : Obs.vis x o = false) (w : World S σ) :
    Hid x w (log o w) :=
  ⟨{ ViewEq.refl x w with trace := (List.filter_cons_of_neg (ho ▸ Bool.false_ne_true)).symm }, rfl, id⟩

theorem hid_flags (x : NodeId) (w : World S σ) (initialized finalized : Bool) (iter : Nat) :
    Hid x w { w with initialized, finalized, iter } :=
  ⟨{ ViewEq.refl x w with }, rfl, id⟩

theorem hid_effect (x : NodeId) (r : Request S) (hr : r.isMsg = false) (w : World S σ) :
    Hid x w (effect cfg x r w) := by
  cases r with
  | setTimer name at_ =>
    exact (hid_sched x at_ (.timerFire x name (w.nextTimer x)) (xowned_iff.mpr rfl) w).trans
      ⟨{ ViewEq.refl x _ with
          pending := (List.filter_cons_of_neg (by simp)).symm
          nextTimer := upd_off _ _ }, rfl, id⟩
  | cancelTimer name =>
    exact ⟨{ ViewEq.refl x w with pending := (filter_cancel_own x name w.pending).symm }, rfl, id⟩
  | send msg dst | broadcast msg => cases hr
  | goto p | gotoGeo p => exact ⟨{ ViewEq.refl x w with target := upd_off _ _ }, rfl, id⟩
  | setSpeed v => exact ⟨{ ViewEq.refl x w with speed := upd_off _ _ }, rfl, id⟩
  | setRange r => exact ⟨{ ViewEq.refl x w with range := upd_off _ _ }, rfl, id⟩

theorem hid_execReq (x : NodeId) (r : Request S) (hr : r.isMsg = false) (w : World S σ) :
    Hid x w (execReq cfg x r w).1 := by
  rw [execReq_eq]
  cases verdict cfg x w.loop.now r with
  | some _ => exact Hid.refl x w
  | none => exact hid_effect cfg x r hr w

theorem hid_runProg (x : NodeId) (p : Prog S σ) (hp : p.silent) (w : World S σ) :
    Hid x w (runProg cfg x p w).1 := by
  induction p generalizing w with
  | done s => exact Hid.refl x w
  | req r k ih =>
    exact ((hid_execReq cfg x r hp.1 w).trans (hid_log x (.request x r _) (bne_self_eq_false x) _)).trans
      (ih _ (hp.2 _) _)

/-- U1a -/
theorem hid_callback (x : NodeId) (hs : Silent x P) (cb : Callback S) (w : World S σ) :
    Hid x w (callback cfg P x cb w) := by
  rw [callback_eq]
  exact ((hid_log x (.callback x cb (reportedTime cfg w)) (bne_self_eq_false x) w).trans
    (hid_runProg cfg x _ (hs _ _ _) _)).trans
    ⟨{ ViewEq.refl x _ with pstate := upd_off _ _ }, rfl, id⟩

theorem hid_execEv_owned (x : NodeId) (hs : Silent x P) (e : Ev (EvKind S))
    (he : xowned x e.kind = true) (w : World S σ) : Hid x w (execEv cfg P e w) := by
  have hx := xowned_iff.mp he
  -- the event makes a callback of its owner, which is `x`
  have own : ∀ {n}, e.kind.owner = some n → n = x := fun ho => Option.some.inj (ho.symm.trans hx)
  have cb : ∀ {n c w'}, e.kind.owner = some n → Hid x w w' → Hid x w (callback cfg P n c w') := by
    intro n c w' ho h
    obtain rfl := own ho
    exact h.trans (hid_callback cfg P n hs c w')
  refine execEv_cases cfg P e w (fun n name tid hk _ => cb (congrArg EvKind.owner hk) ?_)
    (fun _ _ _ _ _ => Hid.refl x w) (fun _ _ _ hk => cb (congrArg EvKind.owner hk) (Hid.refl x w))
    (fun hk => ?_) (fun _ _ hk => cb (congrArg EvKind.owner hk) (Hid.refl x w))
  · obtain rfl := own (congrArg EvKind.owner hk)
    exact ⟨{ ViewEq.refl n w with pending := (filter_erase_own n name tid _).symm }, rfl, id⟩
  · cases (congrArg EvKind.owner hk).symm.trans hx

/-- U1 -/
theorem viewEq_execEv_owned (x : NodeId) (hs : Silent x P) (e : Ev (EvKind S))
    (he : xowned x e.kind = true) (rest : List (Ev (EvKind S))) (w : World S σ)
    (hq : w.loop.queue = e :: rest) :
    ViewEq x w (execEv cfg P e (popped e rest w)) :=
  -- the pop: `x`'s events are not in the queue view, and `now` is not in the view at all
  have pop : ViewEq x w (popped e rest w) :=
    { ViewEq.refl x w with queue := by rw [hq]; exact qview_cons_owned x e rest he }
  pop.trans (hid_execEv_owned cfg P x hs e he _).view

theorem hid_tickNode (x : NodeId) (w : World S σ) : Hid x w (tickNode cfg w x) := by
  refine Hid.trans ?_ (hid_sched x _ _ (xowned_iff.mpr rfl) _)
  exact ⟨{ ViewEq.refl x w with pos := upd_off _ _ }, rfl, id⟩

theorem hid_logAll (x : NodeId) (f : String → Obs S) (hf : ∀ h, Obs.vis x (f h) = false)
    (hs : List String) (w : World S σ) : Hid x w (logAll f hs w) :=
  rel_foldl (Hid.refl x) Hid.trans _ (fun w h => hid_log x (f h) (hf h) w) hs w

theorem hid_handlerInit (x : NodeId) (w : World S σ) :
    Hid x w (logAll .handlerInit cfg.handlers { w with initialized := true }) :=
  (hid_flags x _ true _ _).trans (hid_logAll x _ (fun _ => rfl) _ _)

theorem hid_hooks (x : NodeId) (ts : Int) (w : World S σ) : Hid x w (hooks cfg ts w) :=
  (hid_logAll x _ (fun _ => rfl) _ w).trans (hid_flags x _ _ _ _)

theorem hid_handlerFinal (x : NodeId) (w : World S σ) :
    Hid x w { logAll Obs.handlerFinal cfg.handlers w with finalized := true } :=
  (hid_logAll x _ (fun _ => rfl) _ w).trans (hid_flags x _ _ true _)

structure Sync (cfg : Config S) (n : NodeId) (R : World S σ → World S σ → Prop) : Prop where
  arm : ∀ {w₁ w₂} name at_, R w₁ w₂ → R (arm n name at_ w₁) (arm n name at_ w₂)
  disarm : ∀ {w₁ w₂} name, R w₁ w₂ → R (disarm n name w₁) (disarm n name w₂)
  transmit : ∀ {w₁ w₂} dst msg, R w₁ w₂ → R (transmit cfg n dst msg w₁) (transmit cfg n dst msg w₂)
  target : ∀ {w₁ w₂} t, R w₁ w₂ →
    R { w₁ with target := upd w₁.target n t } { w₂ with target := upd w₂.target n t }
  speed : ∀ {w₁ w₂} v, R w₁ w₂ →
    R { w₁ with speed := upd w₁.speed n v } { w₂ with speed := upd w₂.speed n v }
  range : ∀ {w₁ w₂} r, R w₁ w₂ →
    R { w₁ with range := upd w₁.range n r } { w₂ with range := upd w₂.range n r }
  log : ∀ {w₁ w₂} r b, R w₁ w₂ → R (log (.request n r b) w₁) (log (.request n r b) w₂)
  ret : ∀ {w₁ w₂} s, R w₁ w₂ →
    R { w₁ with pstate := upd w₁.pstate n s } { w₂ with pstate := upd w₂.pstate n s }

namespace Sync
variable {cfg : Config S} {P₁ P₂ : NodeId → Proto S σ} {n : NodeId}
  {R : World S σ → World S σ → Prop} (h : Sync cfg n R) {w₁ w₂ : World S σ}
include h

theorem broadcastTo (msg : String) (dsts : List NodeId) (hr : R w₁ w₂) :
    R (broadcastTo cfg n msg dsts w₁) (broadcastTo cfg n msg dsts w₂) :=
  rel_foldl₂ (fun d _ _ hr => by
    split
    · exact hr
    · exact h.transmit d msg hr) dsts hr

theorem effect (r : Request S) (hr : R w₁ w₂) : R (effect cfg n r w₁) (effect cfg n r w₂) := by
  cases r with
  | setTimer name at_ => exact h.arm name at_ hr
  | cancelTimer name => exact h.disarm name hr
  | send msg dst =>
    cases dst with
    | none => exact hr
    | some d => exact h.transmit _ msg hr
  | broadcast msg => exact h.broadcastTo msg _ hr
  | goto p | gotoGeo p => exact h.target _ hr
  | setSpeed v => exact h.speed v hr
  | setRange r => exact h.range r hr

/-- `hc`: only the verdict on `schedule_timer` reads the clock (`verdict_congr`).  `Cong` supplies the right
    side, equal clocks; `FinEq`, for finalisation at different clocks, the left: no `schedule_timer`. -/
theorem execReq (r : Request S) (hc : r.isSetTimer = false ∨ w₁.loop.now = w₂.loop.now)
    (hr : R w₁ w₂) :
    (execReq cfg n r w₁).2 = (execReq cfg n r w₂).2 ∧
      R (execReq cfg n r w₁).1 (execReq cfg n r w₂).1 := by
  rw [execReq_eq, execReq_eq, verdict_congr cfg n hc]
  cases verdict cfg n w₂.loop.now r with
  | some b => exact ⟨rfl, hr⟩
  | none => exact ⟨rfl, h.effect r hr⟩

theorem runProg (p : Prog S σ) (hc : p.noSetTimer ∨ w₁.loop.now = w₂.loop.now) (hr : R w₁ w₂) :
    (runProg cfg n p w₁).2 = (runProg cfg n p w₂).2 ∧
      R (runProg cfg n p w₁).1 (runProg cfg n p w₂).1 := by
  induction p generalizing w₁ w₂ with
  | done s => exact ⟨rfl, hr⟩
  | req r k ih =>
    obtain ⟨hb, hx⟩ := h.execReq r (hc.imp And.left id) hr
    rw [runProg_req, runProg_req, hb]
    refine ih _ (hc.imp (·.2 _) fun e => ?_) (h.log r _ hx)
    exact (((ReqFrame.prims cfg).execReq n r w₁).now.trans e).trans ((ReqFrame.prims cfg).execReq n r w₂).now.symm

/-- the same callback in both runs, given that the node reacts with the same program and that the two
    observations of the callback (which may differ in the reported time) keep the worlds related.  `hc`
    names `P₂`'s reaction, by `hp` that of `P₁` too, as `FinishClockFree P₂` does in
    `C13_noninterference_duration`. -/
theorem callback (cb : Callback S)
    (hp : (P₁ n).react (w₁.pstate n) n (reportedTime cfg w₁) cb =
      (P₂ n).react (w₂.pstate n) n (reportedTime cfg w₂) cb)
    (hc : ((P₂ n).react (w₂.pstate n) n (reportedTime cfg w₂) cb).noSetTimer ∨
      w₁.loop.now = w₂.loop.now)
    -- `Sim.log`: a bare `log` is the field `Sync.log` here
    (hl : R (Sim.log (.callback n cb (reportedTime cfg w₁)) w₁)
      (Sim.log (.callback n cb (reportedTime cfg w₂)) w₂)) :
    R (callback cfg P₁ n cb w₁) (callback cfg P₂ n cb w₂) := by
  obtain ⟨hs, hr⟩ := h.runProg (w₁ := Sim.log _ w₁) (w₂ := Sim.log _ w₂) _ hc hl
  rw [callback_eq, callback_eq, hp]
  dsimp only  -- the `let` of `callback_eq`
  rw [hs]
  exact h.ret _ hr

end Sync

/-- What the same action of a node other than `x` in the two runs preserves: equal views, and what is
    needed beside them to keep the views equal: equal clocks (read by `schedule_timer`, by the time reported
    to a callback, by the delivery time and by the mobility update) and both queues sorted by time
    (`qview_insert`). -/
structure Cong (x : NodeId) (w₁ w₂ : World S σ) : Prop where
  view : ViewEq x w₁ w₂
  now : w₁.loop.now = w₂.loop.now
  s₁ : SortedTs w₁.loop.queue
  s₂ : SortedTs w₂.loop.queue

theorem Cong.hid {x : NodeId} {w₁ w₂ w₁' w₂' : World S σ} (h : Cong x w₁ w₂) (h₁ : Hid x w₁ w₁')
    (h₂ : Hid x w₂ w₂') : Cong x w₁' w₂' :=
  ⟨(h₁.view.symm.trans h.view).trans h₂.view, by rw [h₁.now, h₂.now, h.now], h₁.sorted h.s₁,
   h₂.sorted h.s₂⟩

theorem cong_sched {x : NodeId} {w₁ w₂ : World S σ} (ts : Int) (k : EvKind S) (h : Cong x w₁ w₂) :
    Cong x (sched ts k w₁) (sched ts k w₂) :=
  -- the two new events differ in the sequence number, which `qview_insert` does not mention
  have hq : qview x (sched ts k w₁).loop.queue = qview x (sched ts k w₂).loop.queue := by
    show qview x (insertEv ⟨ts, _, k⟩ _) = qview x (insertEv ⟨ts, _, k⟩ _)
    rw [qview_insert x _ _ h.s₁, qview_insert x _ _ h.s₂, h.view.queue]
  ⟨{ h.view with queue := hq }, h.now, insertEv_sortedTs _ _ h.s₁, insertEv_sortedTs _ _ h.s₂⟩

theorem cong_log {x : NodeId} {w₁ w₂ : World S σ} (o : Obs S) (h : Cong x w₁ w₂) :
    Cong x (log o w₁) (log o w₂) :=
  ⟨{ h.view with trace := filter_cons_congr o h.view.trace }, h.now, h.s₁, h.s₂⟩

/-- A copy sent by `src ≠ x`: the same draw is consumed; the copy addressed to `x` may be created in
    one world only (`x`'s position is not in the view) but it is owned by `x`; any other copy is
    created in both or in none. -/
theorem cong_transmit {x src : NodeId} (hsrc : src ≠ x) (dst : NodeId) (msg : String)
    {w₁ w₂ : World S σ} (h : Cong x w₁ w₂) :
    Cong x (transmit cfg src dst msg w₁) (transmit cfg src dst msg w₂) := by
  have hc : Cong x { w₁ with drawIdx := w₁.drawIdx + drawCost cfg }
      { w₂ with drawIdx := w₂.drawIdx + drawCost cfg } :=
    ⟨{ h.view with drawIdx := congrArg (· + drawCost cfg) h.view.drawIdx }, h.now, h.s₁, h.s₂⟩
  rw [transmit_eq, transmit_eq]
  by_cases hdx : dst = x
  · subst hdx
    have key : ∀ (b : Bool) (t : Int) (w : World S σ),
        Hid dst w (if b = true then sched t (.deliver dst src msg) w else w) := by
      intro b t w
      split
      · exact hid_sched dst t _ (xowned_iff.mpr rfl) w
      · exact Hid.refl dst w
    exact hc.hid (key _ _ _) (key _ _ _)
  · rw [copyDelivered_congr cfg h.view.drawIdx (h.view.pos src hsrc) (h.view.pos dst hdx)
        (h.view.range src hsrc), deliverTime_congr cfg h.now]
    split
    · exact cong_sched _ _ hc
    · exact hc

theorem Cong.sync {x n : NodeId} (hn : n ≠ x) : Sync (σ := σ) cfg n (Cong x) where
  arm := @fun w₁ w₂ name at_ h => by
    have hs := cong_sched at_ (.timerFire n name (w₂.nextTimer n)) h
    -- the new timer's identifier is `nextTimer n`, the same in both worlds since `n ≠ x`
    unfold arm
    rw [h.view.nextTimer n hn]
    exact ⟨{ hs.view with
        pending := filter_cons_congr _ h.view.pending
        nextTimer := upd_congr_off h.view.nextTimer n _ }, hs.now, hs.s₁, hs.s₂⟩
  disarm name h :=
    ⟨{ h.view with pending := filter_filter_congr _ h.view.pending }, h.now, h.s₁, h.s₂⟩
  transmit dst msg h := cong_transmit cfg hn dst msg h
  target t h := ⟨{ h.view with target := upd_congr_off h.view.target n t }, h.now, h.s₁, h.s₂⟩
  speed v h := ⟨{ h.view with speed := upd_congr_off h.view.speed n v }, h.now, h.s₁, h.s₂⟩
  range r h := ⟨{ h.view with range := upd_congr_off h.view.range n r }, h.now, h.s₁, h.s₂⟩
  log _ _ h := cong_log _ h
  ret s h := ⟨{ h.view with pstate := upd_congr_off h.view.pstate n s }, h.now, h.s₁, h.s₂⟩

theorem cong_callback {x n : NodeId} (hn : n ≠ x) (hP : P₁ n = P₂ n) (cb : Callback S)
    {w₁ w₂ : World S σ} (h : Cong x w₁ w₂) :
    Cong x (callback cfg P₁ n cb w₁) (callback cfg P₂ n cb w₂) := by
  have ht := reportedTime_congr cfg h.now
  refine (Cong.sync cfg hn).callback cb ?_ (Or.inr h.now) ?_
  · rw [hP, h.view.pstate n hn, ht]
  · rw [ht]; exact cong_log _ h

theorem cong_callbackAll {x : NodeId} {P₁ P₂ : NodeId → Proto S σ} (tw : Twin x P₁ P₂)
    (cb : Callback S) (ns : List NodeId) {w₁ w₂ : World S σ} (h : Cong x w₁ w₂) :
    Cong x (callbackAll cfg P₁ cb ns w₁) (callbackAll cfg P₂ cb ns w₂) := by
  refine rel_foldl₂ (fun n w₁ w₂ h => ?_) ns h
  by_cases hn : n = x
  · subst hn
    exact h.hid (hid_callback cfg P₁ n tw.silent₁ cb w₁) (hid_callback cfg P₂ n tw.silent₂ cb w₂)
  · exact cong_callback cfg P₁ P₂ hn (tw.agree n hn) cb h

theorem cong_tickNode {x : NodeId} (n : NodeId) {w₁ w₂ : World S σ} (h : Cong x w₁ w₂) :
    Cong x (tickNode cfg w₁ n) (tickNode cfg w₂ n) := by
  by_cases hn : n = x
  · subst hn
    exact h.hid (hid_tickNode cfg n w₁) (hid_tickNode cfg n w₂)
  · unfold tickNode
    rw [h.view.pos n hn, h.view.target n hn, h.view.speed n hn, h.now]
    have moved : ∀ p, Cong x { w₁ with pos := upd w₁.pos n p } { w₂ with pos := upd w₂.pos n p } :=
      fun p => ⟨{ h.view with pos := upd_congr_off h.view.pos n p }, h.now, h.s₁, h.s₂⟩
    exact cong_sched _ _ (moved _)

theorem cong_mobTick {x : NodeId} {w₁ w₂ : World S σ} (h : Cong x w₁ w₂) :
    Cong x (mobTick cfg w₁) (mobTick cfg w₂) := by
  have hc := rel_foldl₂ (fun n _ _ h => cong_tickNode cfg n h) (List.range cfg.nNodes) h
  rw [mobTick_eq, mobTick_eq, hc.now]
  exact cong_sched _ _ hc

/-- U2 (step consistency); silence is not needed: `x` does nothing here -/
theorem cong_execEv {x : NodeId} (hP : ∀ n, n ≠ x → P₁ n = P₂ n) (e₁ e₂ : Ev (EvKind S))
    (hk : e₁.kind = e₂.kind) (he : xowned x e₁.kind = false) {w₁ w₂ : World S σ} (h : Cong x w₁ w₂) :
    Cong x (execEv cfg P₁ e₁ w₁) (execEv cfg P₂ e₂ w₂) := by
  have off : ∀ {n}, e₁.kind.owner = some n → n ≠ x :=
    fun ho hn => xowned_eq_false_iff.mp he (hn ▸ ho)
  have cb : ∀ {n c}, e₁.kind.owner = some n → ∀ {a b : World S σ}, Cong x a b →
      Cong x (callback cfg P₁ n c a) (callback cfg P₂ n c b) :=
    fun ho => cong_callback cfg P₁ P₂ (off ho) (hP _ (off ho)) _
  -- `execEv_cases` eliminates one execution; here two of them are seen to take the same branch
  unfold execEv
  rw [← hk]
  cases hk1 : e₁.kind with
  | timerFire n name tid =>
    have ho := congrArg EvKind.owner hk1
    dsimp only  -- the `match` on the kind
    rw [contains_congr (a := (n, name, tid)) (by simpa using off ho) h.view.pending]
    split
    · exact cb ho
        ⟨{ h.view with pending := filter_erase_congr _ h.view.pending }, h.now, h.s₁, h.s₂⟩
    · exact h
  | deliver dst src msg => exact cb (congrArg EvKind.owner hk1) h
  | mobTick => exact cong_mobTick cfg h
  | telemetry n p => exact cb (congrArg EvKind.owner hk1) h

end Sim
