import GradysModel.RandomTrip
import GradysProofs.Lemmas.Dispatch
/- Invariant of the random-trip plugin model over every history, generic in the scalar. -/
-- `dropHandler` and `finish` never look at a scalar; their lemmas take the `[Scalar S]` of every other
-- statement here all the same
set_option linter.unusedSectionVars false

namespace RandomTrip
open Disp
variable {S : Type} [Scalar S]

/-- the invariant of the random-trip plugin (not `Sim.TInv`, the trace invariant): the telemetry chain
    holds exactly the current trip closure while a trip is ongoing and no closure otherwise; three draws
    per command; every command and every target is a waypoint of the draw stream -/
structure TInv (cfg : Config S) (draws : Nat → S) (s : RT S) : Prop where
  on : s.ongoing = true → ∃ h t, s.handler = some h ∧ s.target = some t ∧ s.chains .telemetry = [.h h, .own]
  off : s.ongoing = false → s.handler = none ∧ s.chains .telemetry = [.own]
  used : s.used = 3 * s.cmds.length
  cmds : ∀ c ∈ s.cmds, ∃ n, c = waypoint cfg draws n
  tgt : ∀ t, s.target = some t → ∃ n, t = waypoint cfg draws n

variable {cfg : Config S} {draws : Nat → S} {s : RT S}

theorem tinv_init (cfg : Config S) (draws : Nat → S) : TInv cfg draws (RT.init : RT S) :=
  ⟨nofun, fun _ => ⟨rfl, rfl⟩, rfl, nofun, nofun⟩

/-- How the log part of the invariant is carried over an operation: it issued no command and drew
    nothing, or it issued exactly the waypoint of the next three draws; the target stayed, or became that
    waypoint.  What is left to show for each operation is the state of the telemetry chain. -/
theorem TInv.carry {s' : RT S} (hs : TInv cfg draws s)
    (hlog : s'.used = s.used ∧ s'.cmds = s.cmds ∨
      s'.used = s.used + 3 ∧ s'.cmds = waypoint cfg draws s.used :: s.cmds)
    (htgt : s'.target = s.target ∨ s'.target = some (waypoint cfg draws s.used))
    (on : s'.ongoing = true →
      ∃ h t, s'.handler = some h ∧ s'.target = some t ∧ s'.chains .telemetry = [.h h, .own])
    (off : s'.ongoing = false → s'.handler = none ∧ s'.chains .telemetry = [.own]) :
    TInv cfg draws s' := by
  refine ⟨on, off, ?_, ?_, fun t ht => ?_⟩
  · rcases hlog with ⟨hu, hc⟩ | ⟨hu, hc⟩ <;> rw [hu, hc, hs.used]
    exact (Nat.mul_succ 3 _).symm
  · rcases hlog with ⟨-, hc⟩ | ⟨-, hc⟩ <;> rw [hc]
    · exact hs.cmds
    · exact List.forall_mem_cons.mpr ⟨⟨_, rfl⟩, hs.cmds⟩
  · rcases htgt with h | h <;> rw [h] at ht
    · exact hs.tgt t ht
    · exact ⟨_, (Option.some.inj ht).symm⟩

theorem telemetry_on (pos : V3 S) {h : Nat} {t : V3 S}
    (hh : s.handler = some h) (ht : s.target = some t) (hc : s.chains .telemetry = [.h h, .own]) :
    telemetry cfg draws s pos =
      if arrived cfg pos t then
        { s with used := s.used + 3, cmds := waypoint cfg draws s.used :: s.cmds,
                 target := some (waypoint cfg draws s.used), ownCalls := s.ownCalls + 1 }
      else { s with ownCalls := s.ownCalls + 1 } := by
  simp only [telemetry, hc, walk_cons, walk_nil, onTelemetry, hh, ht, travel]
  by_cases ha : arrived cfg pos t = true <;> simp [ha, ht, hh]

theorem telemetry_off (pos : V3 S) (hc : s.chains .telemetry = [.own]) :
    telemetry cfg draws s pos = { s with ownCalls := s.ownCalls + 1 } := by
  simp [telemetry, hc, walk_cons, walk_nil, onTelemetry]

theorem dropHandler_frame (s : RT S) : ∃ c, dropHandler s = { s with chains := c } := by
  unfold dropHandler
  repeat' split
  all_goals exact ⟨_, rfl⟩

theorem dropHandler_on {h : Nat} (hh : s.handler = some h) (hc : s.chains .telemetry = [.h h, .own]) :
    (dropHandler s).chains .telemetry = [.own] := by
  simp [dropHandler, hh, Chains.unregister, hc]

theorem initiate_eq (cfg : Config S) (draws : Nat → S) (s : RT S) :
    initiate cfg draws s =
      { s with chains := (if s.ongoing then dropHandler s else s).chains.register .telemetry s.nextH,
               ongoing := true, target := some (waypoint cfg draws s.used), handler := some s.nextH,
               nextH := s.nextH + 1, used := s.used + 3, cmds := waypoint cfg draws s.used :: s.cmds } := by
  obtain ⟨c, e⟩ := dropHandler_frame s
  unfold initiate
  rw [e]
  cases s.ongoing <;> rfl

theorem tinv_initiate (hs : TInv cfg draws s) :
    TInv cfg draws (initiate cfg draws s) := by
  rw [initiate_eq]
  refine hs.carry (.inr ⟨rfl, rfl⟩) (.inr rfl) (fun _ => ⟨_, _, rfl, rfl, ?_⟩) nofun
  -- whether or not a trip was ongoing, the closure is registered on a chain that holds `own` alone
  have hc : (if s.ongoing then dropHandler s else s).chains .telemetry = [.own] := by
    cases ho : s.ongoing with
    | false => exact (hs.off ho).2
    | true =>
      obtain ⟨h, -, hh, -, hc⟩ := hs.on ho
      exact dropHandler_on hh hc
  simp [Chains.register, hc]

theorem finish_off (ho : s.ongoing = false) : finish s = s :=
  if_neg (ne_true_of_eq_false ho)

theorem finish_on (ho : s.ongoing = true) :
    finish s = { dropHandler s with handler := none, ongoing := false } :=
  if_pos ho

theorem finish_frame (s : RT S) :
    ∃ c h, finish s = { s with chains := c, handler := h, ongoing := false } := by
  cases ho : s.ongoing with
  | false => exact ⟨s.chains, s.handler, by rw [finish_off ho, ← ho]⟩
  | true =>
    obtain ⟨c, e⟩ := dropHandler_frame s
    exact ⟨c, none, by rw [finish_on ho, e]⟩

theorem tinv_finish (hs : TInv cfg draws s) :
    TInv cfg draws (finish s) := by
  cases ho : s.ongoing with
  | false => rw [finish_off ho]; exact hs
  | true =>
    obtain ⟨h, -, hh, -, hc⟩ := hs.on ho
    have hd := dropHandler_on hh hc
    obtain ⟨c, e⟩ := dropHandler_frame s
    rw [finish_on ho]
    rw [e] at hd ⊢
    exact hs.carry (.inl ⟨rfl, rfl⟩) (.inl rfl) nofun fun _ => ⟨rfl, hd⟩

theorem tinv_telemetry (hs : TInv cfg draws s) (pos : V3 S) :
    TInv cfg draws (telemetry cfg draws s pos) := by
  cases ho : s.ongoing with
  | false =>
    rw [telemetry_off pos (hs.off ho).2]
    exact hs.carry (.inl ⟨rfl, rfl⟩) (.inl rfl) hs.on hs.off
  | true =>
    obtain ⟨h, t, hh, ht, hc⟩ := hs.on ho
    rw [telemetry_on pos hh ht hc]
    split
    · exact hs.carry (.inr ⟨rfl, rfl⟩) (.inr rfl) (fun _ => ⟨h, _, hh, rfl, hc⟩) hs.off
    · exact hs.carry (.inl ⟨rfl, rfl⟩) (.inl rfl) hs.on hs.off

theorem tinv_step (hs : TInv cfg draws s) (op : Op S) :
    TInv cfg draws (step cfg draws s op).1 := by
  cases op with
  | initiate => exact tinv_initiate hs
  | finish => exact tinv_finish hs
  | telemetry pos => exact tinv_telemetry hs pos
  | travel => exact hs.carry (.inr ⟨rfl, rfl⟩) (.inl rfl) hs.on hs.off
  | qOngoing | qTarget => exact hs

theorem exec_induction (I : RT S → Prop) (hs : I s) (ops : List (Op S))
    (hstep : ∀ u, I u → ∀ op ∈ ops, I (step cfg draws u op).1) : I (exec cfg draws s ops) :=
  List.foldlRecOn ops _ hs hstep

theorem tinv_exec (hs : TInv cfg draws s) (ops : List (Op S)) :
    TInv cfg draws (exec cfg draws s ops) :=
  exec_induction _ hs ops fun _ hu op _ => tinv_step hu op

theorem run_fst (cfg : Config S) (draws : Nat → S) (s : RT S) (ops : List (Op S)) :
    (run cfg draws s ops).1 = exec cfg draws s ops := by
  induction ops generalizing s with
  | nil => rfl
  | cons op ops ih => exact ih _

end RandomTrip
