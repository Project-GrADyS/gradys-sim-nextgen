import GradysProofs.Lemmas.SimBase
/-
  The per-node part of one mobility update over an arbitrary duplicate-free list of node ids.
-/
set_option linter.unusedSectionVars false

namespace C12
open Sim
variable {S σ : Type} [Scalar S]

def tickNodes (cfg : Config S) (ns : List NodeId) (w : World S σ) : World S σ :=
  ns.foldl (fun w n =>
    let p := Mobility.step cfg.dtS (w.pos n) (w.target n) (w.speed n)
    sched w.loop.now (.telemetry n p) { w with pos := upd w.pos n p }) w

theorem tickNodes_eq (cfg : Config S) (ns : List NodeId) (w : World S σ) :
    tickNodes cfg ns w = ns.foldl (tickNode cfg) w := rfl

def newPos (cfg : Config S) (w : World S σ) (n : NodeId) : V3 S :=
  Mobility.step cfg.dtS (w.pos n) (w.target n) (w.speed n)

/-- the telemetry events are accepted in list order, due now -/
theorem tickNodes_spec (cfg : Config S) (ns : List NodeId) (hnd : ns.Nodup) (w : World S σ) :
    (∀ m, (tickNodes cfg ns w).pos m = if m ∈ ns then newPos cfg w m else w.pos m) ∧
    (tickNodes cfg ns w).target = w.target ∧ (tickNodes cfg ns w).speed = w.speed ∧
    (tickNodes cfg ns w).loop.now = w.loop.now ∧
    ∃ new, (tickNodes cfg ns w).raccepted = new ++ w.raccepted ∧
      new.reverse.map (fun e => (e.ts, e.kind)) =
        ns.map (fun n => (w.loop.now, EvKind.telemetry n (newPos cfg w n))) := by
  induction ns generalizing w with
  | nil => exact ⟨fun m => (if_neg List.not_mem_nil).symm, rfl, rfl, rfl, [], rfl, rfl⟩
  | cons n ns ih =>
    have hnd' := (List.nodup_cons.mp hnd)
    let w1 := tickNode cfg w n
    have hstep : tickNodes cfg (n :: ns) w = tickNodes cfg ns w1 := rfl
    obtain ⟨hpos, htg, hsp, hnow, new, hacc, hmap⟩ := ih hnd'.2 w1
    have hw1pos : ∀ m, m ≠ n → w1.pos m = w.pos m := fun m hm => upd_ne _ _ _ hm
    have hnp : ∀ m, m ≠ n → newPos cfg w1 m = newPos cfg w m := by
      intro m hm; unfold newPos; rw [hw1pos m hm]; rfl
    rw [hstep]
    refine ⟨?_, htg, hsp, hnow, new ++ [⟨w.loop.now, w.loop.nextSeq, .telemetry n (newPos cfg w n)⟩], ?_, ?_⟩
    · intro m
      rw [hpos m]
      by_cases hmn : m = n
      · subst hmn
        simp only [hnd'.1, if_false, List.mem_cons, true_or, if_true]
        exact upd_self _ _ _
      · by_cases hm : m ∈ ns
        · simp only [hm, if_true, List.mem_cons, or_true]; exact hnp m hmn
        · simp only [hm, if_false, List.mem_cons, hmn, or_self]; exact hw1pos m hmn
    · rw [hacc, List.append_assoc]; rfl  -- `w1.raccepted` is that event on top of `w.raccepted`, by definition
    · rw [List.reverse_append, List.map_append, hmap]
      simp only [List.reverse_cons, List.reverse_nil, List.nil_append, List.map_cons, List.map_nil,
        List.singleton_append, List.cons.injEq, true_and]
      apply List.map_congr_left
      intro m hm
      have : m ≠ n := fun h => hnd'.1 (h ▸ hm)
      rw [hnp m this]; rfl

end C12
