import GradysProofs.Lemmas.SimBase
import GradysProofs.Lemmas.Queue
/-
  Non-interference by unwinding (property C13): the notions.

  What is NOT in the view (the global clock `loop.now` first of all), and why: "Guards" at the head of
  Properties/C13.lean.
-/
set_option linter.unusedSectionVars false

namespace Sim

section filter
variable {α : Type} {p : α → Bool} {l₁ l₂ : List α}

theorem filter_comm (p q : α → Bool) (l : List α) :
    (l.filter q).filter p = (l.filter p).filter q := by
  rw [List.filter_filter, List.filter_filter]
  exact List.filter_congr fun a _ => Bool.and_comm _ _

theorem filter_cons_congr (a : α) (h : l₁.filter p = l₂.filter p) :
    (a :: l₁).filter p = (a :: l₂).filter p := by
  simp only [List.filter_cons, h]

theorem filter_filter_congr (q : α → Bool) (h : l₁.filter p = l₂.filter p) :
    (l₁.filter q).filter p = (l₂.filter q).filter p := by
  rw [filter_comm, h, filter_comm]

variable [BEq α] [LawfulBEq α] {a : α}

theorem filter_erase_congr (a : α) (h : l₁.filter p = l₂.filter p) :
    (l₁.erase a).filter p = (l₂.erase a).filter p := by
  rw [← List.erase_filter, ← List.erase_filter, h]

theorem contains_congr (ha : p a = true) (h : l₁.filter p = l₂.filter p) :
    l₁.contains a = l₂.contains a := by
  have key : ∀ l : List α, l.contains a = (l.filter p).contains a := fun l => by
    rw [List.contains_eq_mem, List.contains_eq_mem]
    simp [List.mem_filter, ha]
  rw [key l₁, key l₂, h]

end filter

variable {S σ : Type} [Scalar S]

/-- the node an event belongs to; the mobility tick belongs to nobody -/
def _root_.EvKind.owner : EvKind S → Option NodeId
  | .timerFire n _ _ => some n
  | .deliver dst _ _ => some dst
  | .telemetry n _ => some n
  | .mobTick => none

def xowned (x : NodeId) (k : EvKind S) : Bool := k.owner == some x

theorem xowned_iff {x : NodeId} {k : EvKind S} : xowned x k = true ↔ k.owner = some x := by
  simp [xowned]

theorem xowned_eq_false_iff {x : NodeId} {k : EvKind S} : xowned x k = false ↔ k.owner ≠ some x :=
  Bool.eq_false_iff.trans (not_congr xowned_iff)

/-- the queue as the others see it: `x`'s events deleted, sequence numbers erased -/
def qview (x : NodeId) (q : List (Ev (EvKind S))) : List (Int × EvKind S) :=
  (q.filter (fun e => !xowned x e.kind)).map (fun e => (e.ts, e.kind))

/-- observations of the others: callbacks and requests of nodes `≠ x`. Handler observations are
    NOT part of the view (`afterStep` carries the global iteration number: finding F13). -/
def _root_.Obs.vis (x : NodeId) : Obs S → Bool
  | .callback n _ _ => n != x
  | .request n _ _ => n != x
  | _ => false

/-- the trace projected on the nodes other than `x`, oldest first -/
def ptrace (x : NodeId) (w : World S σ) : List (Obs S) := (w.rtrace.filter (Obs.vis x)).reverse

structure ViewEq (x : NodeId) (w₁ w₂ : World S σ) : Prop where
  queue : qview x w₁.loop.queue = qview x w₂.loop.queue
  pending : w₁.pending.filter (fun p => p.1 != x) = w₂.pending.filter (fun p => p.1 != x)
  nextTimer : ∀ n, n ≠ x → w₁.nextTimer n = w₂.nextTimer n
  range : ∀ n, n ≠ x → w₁.range n = w₂.range n
  pos : ∀ n, n ≠ x → w₁.pos n = w₂.pos n
  target : ∀ n, n ≠ x → w₁.target n = w₂.target n
  speed : ∀ n, n ≠ x → w₁.speed n = w₂.speed n
  pstate : ∀ n, n ≠ x → w₁.pstate n = w₂.pstate n
  drawIdx : w₁.drawIdx = w₂.drawIdx
  trace : w₁.rtrace.filter (Obs.vis x) = w₂.rtrace.filter (Obs.vis x)

theorem ViewEq.refl (x : NodeId) (w : World S σ) : ViewEq x w w :=
  ⟨rfl, rfl, fun _ _ => rfl, fun _ _ => rfl, fun _ _ => rfl, fun _ _ => rfl, fun _ _ => rfl,
   fun _ _ => rfl, rfl, rfl⟩

theorem ViewEq.symm {x : NodeId} {a b : World S σ} (h : ViewEq x a b) : ViewEq x b a :=
  ⟨h.queue.symm, h.pending.symm, fun n hn => (h.nextTimer n hn).symm, fun n hn => (h.range n hn).symm,
   fun n hn => (h.pos n hn).symm, fun n hn => (h.target n hn).symm, fun n hn => (h.speed n hn).symm,
   fun n hn => (h.pstate n hn).symm, h.drawIdx.symm, h.trace.symm⟩

theorem ViewEq.trans {x : NodeId} {a b c : World S σ} (h1 : ViewEq x a b) (h2 : ViewEq x b c) :
    ViewEq x a c :=
  ⟨h1.queue.trans h2.queue, h1.pending.trans h2.pending,
   fun n hn => (h1.nextTimer n hn).trans (h2.nextTimer n hn),
   fun n hn => (h1.range n hn).trans (h2.range n hn),
   fun n hn => (h1.pos n hn).trans (h2.pos n hn),
   fun n hn => (h1.target n hn).trans (h2.target n hn),
   fun n hn => (h1.speed n hn).trans (h2.speed n hn),
   fun n hn => (h1.pstate n hn).trans (h2.pstate n hn),
   h1.drawIdx.trans h2.drawIdx, h1.trace.trans h2.trace⟩

theorem ViewEq.ptrace_eq {x : NodeId} {a b : World S σ} (h : ViewEq x a b) :
    ptrace x a = ptrace x b := by
  unfold ptrace; rw [h.trace]

theorem upd_off {α : Type} {x : NodeId} (f : NodeId → α) (a : α) : ∀ m, m ≠ x → f m = upd f x a m :=
  fun _ hm => (upd_ne f x a hm).symm

theorem upd_congr_off {α : Type} {x : NodeId} {f g : NodeId → α} (h : ∀ m, m ≠ x → f m = g m)
    (n : NodeId) (a : α) : ∀ m, m ≠ x → upd f n a m = upd g n a m := by
  intro m hm
  by_cases hmn : m = n
  · rw [hmn, upd_self, upd_self]
  · rw [upd_ne _ _ _ hmn, upd_ne _ _ _ hmn]
    exact h m hm

theorem filter_cancel_own (x : NodeId) (name : String) (l : List (NodeId × String × Nat)) :
    (l.filter (fun p => !(p.1 == x && p.2.1 == name))).filter (fun p => p.1 != x) =
      l.filter (fun p => p.1 != x) := by
  rw [List.filter_filter]
  apply List.filter_congr
  intro p _
  by_cases h : p.1 = x <;> simp [h]

theorem filter_erase_own (x : NodeId) (name : String) (tid : Nat) (l : List (NodeId × String × Nat)) :
    (l.erase (x, name, tid)).filter (fun p => p.1 != x) = l.filter (fun p => p.1 != x) := by
  rw [← List.erase_filter, List.erase_of_not_mem]
  simp

def _root_.Request.isMsg : Request S → Bool
  | .send _ _ => true
  | .broadcast _ => true
  | _ => false

/-- no `send` / `broadcast` on any branch of the interaction tree -/
def _root_.Prog.silent : Prog S σ → Prop
  | .done _ => True
  | .req r k => r.isMsg = false ∧ ∀ b, (k b).silent

/-- node `x`'s program never issues `send` / `broadcast`, whatever its state, the time, the callback -/
def Silent (x : NodeId) (P : NodeId → Proto S σ) : Prop :=
  ∀ (s : σ) (t : Int) (cb : Callback S), ((P x).react s x t cb).silent

structure Twin (x : NodeId) (P₁ P₂ : NodeId → Proto S σ) : Prop where
  silent₁ : Silent x P₁
  silent₂ : Silent x P₂
  agree : ∀ n, n ≠ x → P₁ n = P₂ n

theorem Twin.symm {x : NodeId} {P₁ P₂ : NodeId → Proto S σ} (h : Twin x P₁ P₂) : Twin x P₂ P₁ :=
  ⟨h.silent₂, h.silent₁, fun n hn => (h.agree n hn).symm⟩

theorem qview_cons_owned (x : NodeId) (e : Ev (EvKind S)) (q : List (Ev (EvKind S)))
    (h : xowned x e.kind = true) : qview x (e :: q) = qview x q := by
  simp [qview, h]

theorem qview_cons_other (x : NodeId) (e : Ev (EvKind S)) (q : List (Ev (EvKind S)))
    (h : xowned x e.kind = false) : qview x (e :: q) = (e.ts, e.kind) :: qview x q := by
  simp [qview, h]

theorem qview_append (x : NodeId) (q q' : List (Ev (EvKind S))) :
    qview x (q ++ q') = qview x q ++ qview x q' := by
  simp [qview]

theorem mem_qview {x : NodeId} {q : List (Ev (EvKind S))} {a : Int × EvKind S} :
    a ∈ qview x q ↔ ∃ e ∈ q, xowned x e.kind = false ∧ (e.ts, e.kind) = a := by
  unfold qview
  simp only [List.mem_map, List.mem_filter, Bool.not_eq_true', and_assoc]

theorem qview_filter_ts (x : NodeId) (c : Int → Bool) (q : List (Ev (EvKind S))) :
    qview x (q.filter (fun y => c y.ts)) = (qview x q).filter (fun a => c a.1) := by
  unfold qview
  rw [List.filter_map, filter_comm]
  rfl

theorem qview_insert_owned (x : NodeId) (e : Ev (EvKind S)) (q : List (Ev (EvKind S)))
    (h : xowned x e.kind = true) : qview x (insertEv e q) = qview x q := by
  unfold qview
  rw [filter_insertEv_neg _ e q (by simp [h])]

/-- the view of a queue sorted by time after an insertion is a function of its view before, and of
    the time and the kind (not the sequence number) of the new event -/
theorem qview_insert (x : NodeId) (e : Ev (EvKind S)) (q : List (Ev (EvKind S))) (hs : SortedTs q) :
    qview x (insertEv e q) =
      (qview x q).filter (fun a => a.1 ≤ e.ts) ++
        ((if xowned x e.kind then [] else [(e.ts, e.kind)]) ++
          (qview x q).filter (fun a => ¬ a.1 ≤ e.ts)) := by
  rw [insertEv_eq_filter e q hs, qview_append, ← qview_filter_ts x (fun t => t ≤ e.ts),
    ← qview_filter_ts x (fun t => ¬ t ≤ e.ts)]
  cases h : xowned x e.kind
  · rw [qview_cons_other x e _ h]; rfl
  · rw [qview_cons_owned x e _ h]; rfl

end Sim
