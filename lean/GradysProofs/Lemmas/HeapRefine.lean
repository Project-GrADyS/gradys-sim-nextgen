import GradysModel.Heap
import GradysProofs.Lemmas.Queue
/-
  The port of `heapq.py` (`GradysModel/Heap.lean`) is a correct priority queue whenever `lt` is a
  strict weak order on the elements present (`StrictWeakOn lt P`: irreflexive, transitive, `¬ >`
  transitive, all three only required of elements satisfying `P`).  Every `lt` that is a strict
  total order on the elements present is one (`StrictWeakOn.of_total`), and so is the (ts, seq) order
  on all events whatever their payload (`keyLtb_strictWeak`).  For the (ts, seq) order the heap
  refines the sorted-list queue of `GradysModel/Queue.lean`.

  Both loops of `heapq.py` move a hole through the array, `_siftdown` towards the root and `_siftup`
  towards a leaf; `Hole lt P g pos` (heap order everywhere once position `pos` is disregarded) is the
  invariant of both.  Filling the hole with a value that fits gives back `HeapInv` (`Hole.fill`),
  taking a position out of a heap gives a hole (`HeapInv.hole`), and one step of either loop is the
  one followed by the other.
-/

namespace Heap
variable {α : Type}

/-- `lt` is a `Bool`-valued `<`: what `Event.__lt__` is -/
structure StrictWeakOn (lt : α → α → Bool) (P : α → Prop) : Prop where
  irrefl : ∀ a, P a → lt a a = false
  trans : ∀ a b c, P a → P b → P c → lt a b = true → lt b c = true → lt a c = true
  negtrans : ∀ a b c, P a → P b → P c → lt a b = false → lt b c = false → lt a c = false

abbrev StrictWeak (lt : α → α → Bool) : Prop := StrictWeakOn lt (fun _ => True)

theorem StrictWeakOn.asymm {lt : α → α → Bool} {P : α → Prop} (sw : StrictWeakOn lt P) {a b : α}
    (ha : P a) (hb : P b) (hab : lt a b = true) : lt b a = false :=
  Bool.eq_false_iff.mpr fun hba =>
    Bool.eq_false_iff.mp (sw.irrefl a ha) (sw.trans a b a ha hb ha hab hba)

theorem StrictWeakOn.of_total {lt : α → α → Bool} {P : α → Prop} (irrefl : ∀ a, P a → lt a a = false)
    (trans : ∀ a b c, P a → P b → P c → lt a b = true → lt b c = true → lt a c = true)
    (total : ∀ a b, P a → P b → a ≠ b → lt a b = true ∨ lt b a = true) : StrictWeakOn lt P where
  irrefl := irrefl
  trans := trans
  negtrans := fun a b c ha hb hc hab hbc => Bool.eq_false_iff.mpr fun hac => by
    -- a < c, ¬ a < b, ¬ b < c: then a ≠ b, so b < a < c
    by_cases h : a = b
    · exact Bool.eq_false_iff.mp hbc (h ▸ hac)
    · rcases total a b ha hb h with h' | h'
      · exact Bool.eq_false_iff.mp hab h'
      · exact Bool.eq_false_iff.mp hbc (trans b a c hb ha hc h' hac)

variable {lt : α → α → Bool} {P : α → Prop} {g : Array α} {pos : Nat}

def HeapInv (lt : α → α → Bool) (a : Array α) : Prop :=
  ∀ i (hi : i < a.size), 0 < i → lt a[i] (a[(i - 1) / 2]'(by omega)) = false

/-- `j` is the parent of `i` (`parentpos = (pos - 1) >> 1`).  All index arithmetic of the two loops
    goes through `par_iff`: the children of `j` are `2*j + 1` and `2*j + 2`. -/
def Par (i j : Nat) : Prop := 0 < i ∧ (i - 1) / 2 = j

theorem par_iff {i j : Nat} : Par i j ↔ i = 2 * j + 1 ∨ i = 2 * j + 1 + 1 := by
  unfold Par; omega

theorem Par.parent_lt {i j : Nat} (h : Par i j) : j < i := by
  have := par_iff.mp h; omega

theorem Par.unique {i j j' : Nat} (h : Par i j) (h' : Par i j') : j = j' := h.2.symm.trans h'.2

theorem heapInv_iff_par {a : Array α} : HeapInv lt a ↔
    ∀ i j (hi : i < a.size) (hj : j < a.size), Par i j → lt a[i] a[j] = false := by
  constructor
  · rintro h i j hi hj ⟨h0, rfl⟩
    exact h i hi h0
  · intro h i hi h0
    exact h i _ hi _ ⟨h0, rfl⟩

theorem HeapInv.empty (lt : α → α → Bool) : HeapInv lt (#[] : Array α) := by
  intro i hi; simp at hi

theorem HeapInv.of_push {x : α} (h : HeapInv lt (g.push x)) : HeapInv lt g := by
  intro i hi h0
  have := h i (by simp; omega) h0
  rwa [Array.getElem_push_lt hi, Array.getElem_push_lt] at this

theorem HeapInv.root_min (sw : StrictWeakOn lt P) {a : Array α} (hall : ∀ y ∈ a.toList, P y)
    (h : HeapInv lt a) (hne : 0 < a.size) : ∀ y ∈ a.toList, lt y a[0] = false := by
  have hP := fun k (hk : k < a.size) => hall _ (Array.getElem_mem_toList hk)
  -- by `≤`-transitivity up the path to the root
  have key : ∀ i (hi : i < a.size), lt a[i] a[0] = false := by
    intro i
    induction i using Nat.strongRecOn with
    | _ i ih =>
      intro hi
      by_cases h0 : i = 0
      · subst h0; exact sw.irrefl _ (hP 0 hi)
      · have hp : Par i ((i - 1) / 2) := ⟨Nat.pos_of_ne_zero h0, rfl⟩
        exact sw.negtrans _ _ _ (hP _ _) (hP _ _) (hP _ _) (h i hi hp.1)
          (ih _ hp.parent_lt (Nat.lt_trans hp.parent_lt hi))
  intro y hy
  obtain ⟨i, hi, rfl⟩ := List.mem_iff_getElem.mp hy
  exact key i (by simpa using hi)

theorem forall_mem_set (hall : ∀ y ∈ g.toList, P y) (i : Nat) {v : α} (hv : P v) :
    ∀ y ∈ (g.setIfInBounds i v).toList, P y := by
  intro y hy
  rw [Array.toList_setIfInBounds] at hy
  rcases List.mem_or_eq_of_mem_set hy with h | rfl
  · exact hall y h
  · exact hv

theorem forall_mem_push {x : α} : (∀ y ∈ (g.push x).toList, P y) ↔ (∀ y ∈ g.toList, P y) ∧ P x := by
  simp [or_imp, forall_and]

/-- `g` is heap-ordered once position `pos` is disregarded: every edge that does not touch `pos` is
    in order, and so is every child of `pos` with the parent of `pos`.  `g[pos]` is never looked at
    except that, like every element, it satisfies `P` (so that the order axioms apply). -/
structure Hole (lt : α → α → Bool) (P : α → Prop) (g : Array α) (pos : Nat) : Prop where
  all : ∀ y ∈ g.toList, P y
  pos_lt : pos < g.size
  edge : ∀ i j (hi : i < g.size) (hj : j < g.size), Par i j → i ≠ pos → j ≠ pos →
    lt g[i] g[j] = false
  skip : ∀ i j (hi : i < g.size) (hj : j < g.size), Par i pos → Par pos j → lt g[i] g[j] = false

theorem Hole.get (inv : Hole lt P g pos) {i : Nat} (hi : i < g.size) : P g[i] :=
  inv.all _ (Array.getElem_mem_toList hi)

theorem Hole.set (inv : Hole lt P g pos) {v : α} (hv : P v) :
    Hole lt P (g.setIfInBounds pos v) pos := by
  refine ⟨forall_mem_set inv.all pos hv, by simpa using inv.pos_lt, ?_, ?_⟩
  · intro i j hi hj hij hne hpne
    simp only [Array.size_setIfInBounds] at hi hj
    rw [Array.getElem_setIfInBounds_ne hi hne.symm, Array.getElem_setIfInBounds_ne hj hpne.symm]
    exact inv.edge i j hi hj hij hne hpne
  · intro i j hi hj hip hpj
    simp only [Array.size_setIfInBounds] at hi hj
    rw [Array.getElem_setIfInBounds_ne hi (Nat.ne_of_lt hip.parent_lt),
      Array.getElem_setIfInBounds_ne hj (Nat.ne_of_gt hpj.parent_lt)]
    exact inv.skip i j hi hj hip hpj

theorem Hole.fill (inv : Hole lt P g pos) {x : α}
    (below : ∀ c (hc : c < g.size), Par c pos → lt g[c] x = false)
    (above : ∀ p (hp : p < g.size), Par pos p → lt x g[p] = false) :
    HeapInv lt (g.setIfInBounds pos x) := by
  rw [heapInv_iff_par]
  intro i j hi hj hij
  simp only [Array.size_setIfInBounds] at hi hj
  rw [Array.getElem_setIfInBounds hi, Array.getElem_setIfInBounds hj]
  split
  · rename_i hip
    subst hip
    rw [if_neg (Nat.ne_of_gt hij.parent_lt)]
    exact above j hj hij
  · split
    · rename_i hjp
      subst hjp
      exact below i hi hij
    · rename_i hip hjp
      exact inv.edge i j hi hj hij (Ne.symm hip) (Ne.symm hjp)

theorem HeapInv.hole (sw : StrictWeakOn lt P) (hall : ∀ y ∈ g.toList, P y) (h : HeapInv lt g)
    (hpos : pos < g.size) : Hole lt P g pos := by
  have hP := fun k (hk : k < g.size) => hall _ (Array.getElem_mem_toList hk)
  rw [heapInv_iff_par] at h
  exact ⟨hall, hpos, fun i j hi hj hij _ _ => h i j hi hj hij, fun i j hi hj hip hpj =>
    sw.negtrans _ _ _ (hP i hi) (hP pos hpos) (hP j hj) (h i pos hi hpos hip) (h pos j hpos hj hpj)⟩

/-- `_siftdown` moves the hole to its parent `p`, copying `g[p]` down; when `x < g[p]`, every child
    of the new hole is `≥ x` -/
theorem Hole.up (sw : StrictWeakOn lt P) {x : α} (hx : P x) (inv : Hole lt P g pos) {p : Nat}
    (hp : Par pos p) (hps : p < g.size) (hlt : lt x g[p] = true) :
    Hole lt P (g.setIfInBounds pos g[p]) p ∧
    ∀ c (hc : c < (g.setIfInBounds pos g[p]).size), Par c p →
      lt (g.setIfInBounds pos g[p])[c] x = false := by
  have hpp := inv.get hps
  have hps' : p < (g.setIfInBounds pos g[p]).size := by simpa using hps
  -- with the parent's value in the hole the array is a heap
  have hfill : HeapInv lt (g.setIfInBounds pos g[p]) :=
    inv.fill (fun c hc hcp => inv.skip c p hc hps hcp hp) (fun q hq hpq => by
      obtain rfl := hp.unique hpq
      exact sw.irrefl _ hpp)
  have inv' := hfill.hole sw (forall_mem_set inv.all pos hpp) hps'
  refine ⟨inv', fun c hc hcp => ?_⟩
  have := heapInv_iff_par.mp hfill c p hc hps' hcp
  rw [Array.getElem_setIfInBounds_ne hps (Nat.ne_of_gt hp.parent_lt)] at this
  exact sw.negtrans _ _ _ (inv'.get hc) hpp hx this (sw.asymm hx hpp hlt)

/-- `_siftup` moves the hole to a child `c` that no child of `pos` is smaller than, copying `g[c]` up -/
theorem Hole.down (sw : StrictWeakOn lt P) (inv : Hole lt P g pos) {c : Nat} (hc : c < g.size)
    (hcp : Par c pos) (hmin : ∀ s (hs : s < g.size), Par s pos → lt g[s] g[c] = false) :
    Hole lt P (g.setIfInBounds pos g[c]) c :=
  (inv.fill hmin (fun j hj hpj => inv.skip c j hc hj hcp hpj)).hole sw
    (forall_mem_set inv.all pos (inv.get hc)) (by simpa using hc)

/-- contents: moving `g[j]` into the hole at `i` and the hole to `j` does not change what the array
    holds once the hole is filled -/
theorem set_set_perm (g : Array α) {i j : Nat} (hi : i < g.size) (hj : j < g.size) (hij : i ≠ j)
    (x : α) :
    ((g.setIfInBounds i g[j]).setIfInBounds j x).toList.Perm (g.setIfInBounds i x).toList := by
  have := List.set_set_perm (as := g.toList.set i x) (i := i) (j := j) (by simpa) (by simpa)
  simpa [hij, hij.symm] using this

/-- `_siftdown` from a hole at `pos` with `newitem = x`; `below`: every child of the hole is `≥ x` -/
theorem siftdown_spec (sw : StrictWeakOn lt P) {x : α} (hx : P x) :
    ∀ (fuel : Nat) (g : Array α) (pos : Nat), pos ≤ fuel → Hole lt P g pos →
      (∀ c (hc : c < g.size), Par c pos → lt g[c] x = false) →
      HeapInv lt (siftdown lt g 0 pos x fuel) ∧
      (siftdown lt g 0 pos x fuel).toList.Perm (g.setIfInBounds pos x).toList := by
  -- at the root the hole has no parent
  have root : ∀ {g : Array α} {pos : Nat}, ¬ pos > 0 → Hole lt P g pos →
      (∀ c (hc : c < g.size), Par c pos → lt g[c] x = false) → HeapInv lt (g.setIfInBounds pos x) :=
    fun h0 inv below => inv.fill below (fun p _ hp => absurd hp.parent_lt (by omega))
  intro fuel
  induction fuel with
  | zero =>
    intro g pos hf inv below
    exact ⟨root (by omega) inv below, .refl _⟩
  | succ n ih =>
    intro g pos hf inv below
    have hpl := inv.pos_lt
    unfold siftdown
    by_cases h0 : pos > 0
    · have hp : Par pos ((pos - 1) / 2) := ⟨h0, rfl⟩
      have hps := Nat.lt_trans hp.parent_lt hpl
      rw [if_pos h0, dif_pos hps]
      generalize (pos - 1) / 2 = p at hp hps ⊢
      dsimp only
      by_cases hlt : lt x g[p] = true
      · rw [if_pos hlt]
        have hpp := hp.parent_lt
        obtain ⟨inv', below'⟩ := inv.up sw hx hp hps hlt
        obtain ⟨r1, r2⟩ := ih _ p (by omega) inv' below'
        exact ⟨r1, r2.trans (set_set_perm g hpl _ (Nat.ne_of_gt hpp) x)⟩
      · rw [if_neg hlt]
        refine ⟨inv.fill below (fun q _ hq => ?_), .refl _⟩
        obtain rfl := hp.unique hq
        exact Bool.not_eq_true _ ▸ hlt
    · rw [if_neg h0]
      exact ⟨root h0 inv below, .refl _⟩

theorem heappush_spec_on (sw : StrictWeakOn lt P) {h : Array α}
    (hall : ∀ y ∈ h.toList, P y) (hinv : HeapInv lt h) (x : α) (hx : P x) :
    HeapInv lt (heappush lt h x) ∧ (heappush lt h x).toList.Perm (x :: h.toList) := by
  -- the new last position is a leaf: the edges not touching it are those of `h`
  have inv : Hole lt P (h.push x) h.size := by
    refine ⟨forall_mem_push.mpr ⟨hall, hx⟩, by simp, ?_, ?_⟩
    · intro i j hi hj hij hne hpne
      have hi' : i < h.size := by simp at hi; omega
      have hj' : j < h.size := by simp at hj; omega
      rw [Array.getElem_push_lt hi', Array.getElem_push_lt hj']
      exact heapInv_iff_par.mp hinv i j hi' hj' hij
    · intro i j hi _ hij _
      have := hij.parent_lt
      simp at hi; omega
  have := siftdown_spec sw hx (h.size + 1) (h.push x) h.size (by omega) inv (fun c hc hcp => by
    have := hcp.parent_lt
    simp at hc
    omega)
  unfold heappush
  simp only [Array.size_push, Nat.add_sub_cancel]
  refine ⟨this.1, this.2.trans ?_⟩
  simp

theorem pickChild_par (lt : α → α → Bool) (g : Array α) (pos : Nat) (hc : 2 * pos + 1 < g.size) :
    Par (pickChild lt g (2 * pos + 1) hc).val pos := by
  unfold pickChild
  split
  · split
    · exact par_iff.mpr (Or.inl rfl)
    · exact par_iff.mpr (Or.inr rfl)
  · exact par_iff.mpr (Or.inl rfl)

theorem pickChild_min (sw : StrictWeakOn lt P) (hall : ∀ y ∈ g.toList, P y) (pos : Nat)
    (hc : 2 * pos + 1 < g.size) (s : Nat) (hs : s < g.size) (hsp : Par s pos) :
    lt g[s] (g[(pickChild lt g (2 * pos + 1) hc).val]'(Fin.isLt _)) = false := by
  have hP := fun k (hk : k < g.size) => hall _ (Array.getElem_mem_toList hk)
  have hsc := par_iff.mp hsp
  unfold pickChild
  split
  · split
    · rename_i hlt
      rcases hsc with rfl | rfl
      · exact sw.irrefl _ (hP _ _)
      · exact sw.asymm (hP _ _) (hP _ _) hlt
    · rename_i hlt
      rcases hsc with rfl | rfl
      · exact Bool.not_eq_true _ ▸ hlt
      · exact sw.irrefl _ (hP _ _)
  · rcases hsc with rfl | rfl
    · exact sw.irrefl _ (hP _ _)
    · omega

/-- `_siftup(heap, pos)` with `newitem = x`: the hole sinks to a leaf (fuel `f1`), then `x` is stored
    there and sifted down (fuel `f2`) -/
theorem siftup_spec (sw : StrictWeakOn lt P) {x : α} (hx : P x) (f2 : Nat) :
    ∀ (f1 : Nat) (g : Array α) (pos : Nat), g.size ≤ f1 + pos → g.size ≤ f2 →
      Hole lt P g pos → ∀ r, siftupLoop lt g pos f1 = r →
      HeapInv lt (siftdown lt (r.1.setIfInBounds r.2 x) 0 r.2 x f2) ∧
      (siftdown lt (r.1.setIfInBounds r.2 x) 0 r.2 x f2).toList.Perm
        (g.setIfInBounds pos x).toList := by
  intro f1
  induction f1 with
  | zero =>
    intro g pos hf _ inv
    have := inv.pos_lt
    omega
  | succ n ih =>
    intro g pos hf hf2 inv r hr
    have hpl := inv.pos_lt
    unfold siftupLoop at hr
    split at hr
    · rename_i hc
      have hcp := pickChild_par lt g pos hc
      have := hcp.parent_lt
      obtain ⟨r1, r2⟩ := ih _ _ (by simp; omega) (by simpa using hf2)
        (inv.down sw (Fin.isLt _) hcp (pickChild_min sw inv.all pos hc)) r hr
      exact ⟨r1, r2.trans (set_set_perm g hpl _ (Nat.ne_of_lt hcp.parent_lt) x)⟩
    · -- a leaf: no child to be `≥ x`
      rename_i hc
      subst hr
      have := siftdown_spec sw hx f2 (g.setIfInBounds pos x) pos (by omega) (inv.set hx)
        (fun c hc' hcp => by have := par_iff.mp hcp; simp at hc'; omega)
      rwa [Array.setIfInBounds_setIfInBounds] at this

theorem heappop_empty (lt : α → α → Bool) (h : Array α) (hs : h.size = 0) : heappop lt h = none := by
  unfold heappop
  rw [dif_pos hs]

def heappopFuel (lt : α → α → Bool) (h : Array α) (f1 f2 : Nat) : Option (α × Array α) :=
  if hs : h.size = 0 then none else
  let lastelt := h[h.size - 1]
  let h := h.pop
  if hs' : h.size = 0 then some (lastelt, h) else
  let ret := h[0]
  let newitem := lastelt
  let r := siftupLoop lt (h.setIfInBounds 0 newitem) 0 f1
  some (ret, siftdown lt (r.1.setIfInBounds r.2 newitem) 0 r.2 newitem f2)

theorem heappop_eq_fuel (lt : α → α → Bool) (h : Array α) :
    heappop lt h = heappopFuel lt h h.pop.size h.pop.size := rfl

/-- on a non-empty list, written with the list `g` that `heap.pop()` leaves -/
theorem heappopFuel_push (lt : α → α → Bool) (g : Array α) (x : α) (f1 f2 : Nat) :
    heappopFuel lt (g.push x) f1 f2 =
      if h : g.size = 0 then some (x, g) else
        let r := siftupLoop lt (g.setIfInBounds 0 x) 0 f1
        some (g[0]'(Nat.pos_of_ne_zero h), siftdown lt (r.1.setIfInBounds r.2 x) 0 r.2 x f2) := by
  simp [heappopFuel]

theorem heappop_eq_none_iff (lt : α → α → Bool) (h : Array α) : heappop lt h = none ↔ h.size = 0 := by
  refine ⟨fun hn => Nat.eq_zero_of_not_pos fun hpos => ?_, heappop_empty lt h⟩
  obtain ⟨g, x, rfl⟩ := Array.exists_push_of_size_pos hpos
  rw [heappop_eq_fuel, heappopFuel_push] at hn
  split at hn <;> cases hn

theorem heappop_spec_on (sw : StrictWeakOn lt P) {h : Array α}
    (hall : ∀ y ∈ h.toList, P y) (hinv : HeapInv lt h) (hne : 0 < h.size) :
    ∃ h', heappop lt h = some (h[0], h') ∧ HeapInv lt h' ∧ h.toList.Perm (h[0] :: h'.toList) := by
  obtain ⟨g, x, rfl⟩ := Array.exists_push_of_size_pos hne
  obtain ⟨hall', hx⟩ := forall_mem_push.mp hall
  rw [heappop_eq_fuel, Array.pop_push, heappopFuel_push]
  split
  · rename_i hg
    obtain rfl := Array.eq_empty_of_size_eq_zero hg
    exact ⟨#[], rfl, HeapInv.empty lt, .refl _⟩
  · rename_i hg
    have hg0 : 0 < g.size := Nat.pos_of_ne_zero hg
    rw [Array.getElem_push_lt hg0]
    obtain ⟨r1, r2⟩ := siftup_spec sw hx g.size g.size (g.setIfInBounds 0 x) 0 (by simp) (by simp)
      ((hinv.of_push.hole sw hall' hg0).set hx) _ rfl
    refine ⟨_, rfl, r1, ?_⟩
    rw [Array.setIfInBounds_setIfInBounds] at r2
    -- contents: `g ++ [x]` against `g[0] :: g` with `g[0]` overwritten by `x`
    obtain ⟨_ | ⟨a, t⟩⟩ := g
    · simp at hg
    · have : (a :: (t ++ [x])).Perm (a :: x :: t) := (List.perm_append_singleton x t).cons a
      simpa using this.trans (r2.symm.cons a)

theorem heappop_min {lt : α → α → Bool} (sw : StrictWeak lt) {h : Array α} (hinv : HeapInv lt h)
    {e : α} {h' : Array α} (hp : heappop lt h = some (e, h')) : ∀ y ∈ h.toList, lt y e = false := by
  have hne : 0 < h.size := Nat.pos_of_ne_zero fun h0 => by
    rw [heappop_empty lt h h0] at hp; cases hp
  obtain ⟨h'', he, -, -⟩ := heappop_spec_on sw (fun _ _ => trivial) hinv hne
  obtain ⟨rfl, -⟩ := Prod.mk.inj (Option.some.inj (he.symm.trans hp))
  exact hinv.root_min sw (fun _ _ => trivial) hne

theorem siftdown_fuel_irrelevant (lt : α → α → Bool) (sp : Nat) (x : α) :
    ∀ (f1 f2 : Nat) (g : Array α) (pos : Nat), pos ≤ f1 + sp → pos ≤ f2 + sp →
      siftdown lt g sp pos x f1 = siftdown lt g sp pos x f2 := by
  intro f1
  induction f1 with
  | zero =>
    intro f2 g pos h1 _
    cases f2 with
    | zero => rfl
    | succ m => simp [siftdown, Nat.not_lt.mpr (Nat.zero_add sp ▸ h1)]
  | succ n ih =>
    intro f2 g pos h1 h2
    cases f2 with
    | zero => simp [siftdown, Nat.not_lt.mpr (Nat.zero_add sp ▸ h2)]
    | succ m =>
      -- the two sides differ in the fuel of the recursive call only
      have hpp : ∀ k, pos ≤ k + 1 + sp → (pos - 1) / 2 ≤ k + sp := fun k h =>
        Nat.le_trans (Nat.div_le_self _ 2) (by omega)
      rw [siftdown, siftdown]
      simp only [ih m _ _ (hpp n h1) (hpp m h2)]

theorem heappush_fuel (lt : α → α → Bool) (h : Array α) (x : α) (fuel : Nat) (hf : h.size ≤ fuel) :
    siftdown lt (h.push x) 0 h.size x fuel = heappush lt h x := by
  unfold heappush
  simp only [Array.size_push, Nat.add_sub_cancel]
  exact siftdown_fuel_irrelevant lt 0 x _ _ _ _ (by omega) (by omega)

theorem siftupLoop_fuel_irrelevant (lt : α → α → Bool) :
    ∀ (f1 f2 : Nat) (g : Array α) (pos : Nat), g.size ≤ f1 + pos → g.size ≤ f2 + pos →
      siftupLoop lt g pos f1 = siftupLoop lt g pos f2 := by
  intro f1
  induction f1 with
  | zero =>
    intro f2 g pos h1 _
    cases f2 with
    | zero => rfl
    | succ m =>
      have : ¬ 2 * pos + 1 < g.size := by omega
      simp [siftupLoop, this]
  | succ n ih =>
    intro f2 g pos h1 h2
    cases f2 with
    | zero =>
      have : ¬ 2 * pos + 1 < g.size := by omega
      simp [siftupLoop, this]
    | succ m =>
      rw [siftupLoop, siftupLoop]
      split
      · rename_i hc
        have := (pickChild_par lt g pos hc).parent_lt
        exact ih m _ _ (by simp; omega) (by simp; omega)
      · rfl

theorem siftupLoop_bounds (lt : α → α → Bool) :
    ∀ (fuel : Nat) (g : Array α) (pos : Nat), pos < g.size → ∀ r, siftupLoop lt g pos fuel = r →
      r.1.size = g.size ∧ r.2 < g.size := by
  intro fuel
  induction fuel with
  | zero => rintro g pos hp r rfl; exact ⟨rfl, hp⟩
  | succ n ih =>
    intro g pos hp r hr
    unfold siftupLoop at hr
    split at hr
    · simpa using ih _ _ (by simp) r hr
    · subst hr; exact ⟨rfl, hp⟩

theorem heappop_fuel (lt : α → α → Bool) (h : Array α) (f1 f2 : Nat) (h1 : h.size - 1 ≤ f1)
    (h2 : h.size - 1 ≤ f2) : heappopFuel lt h f1 f2 = heappop lt h := by
  rcases Nat.eq_zero_or_pos h.size with h0 | h0
  · rw [heappop_empty lt h h0, heappopFuel, dif_pos h0]
  · obtain ⟨g, x, rfl⟩ := Array.exists_push_of_size_pos h0
    simp only [Array.size_push, Nat.add_sub_cancel] at h1 h2
    rw [heappop_eq_fuel, Array.pop_push, heappopFuel_push, heappopFuel_push]
    split
    · rfl
    · rename_i hg
      have hb := siftupLoop_bounds lt g.size (g.setIfInBounds 0 x) 0
        (by simpa using Nat.pos_of_ne_zero hg) _ rfl
      simp only [Array.size_setIfInBounds] at hb
      dsimp only
      rw [siftupLoop_fuel_irrelevant lt f1 g.size _ 0 (by simpa using h1) (by simp),
        siftdown_fuel_irrelevant lt 0 x f2 g.size _ _ (by omega) (by omega)]

variable {K : Type}

theorem keyLtb_iff (a b : Ev K) : keyLtb a b = true ↔ keyLt a b := by
  unfold keyLtb keyLt
  simp

theorem keyLtb_false_iff (a b : Ev K) : keyLtb a b = false ↔ ¬ keyLt a b := by
  rw [← keyLtb_iff]
  simp

theorem keyLtb_strictWeak : StrictWeak (keyLtb : Ev K → Ev K → Bool) where
  irrefl a _ := by rw [keyLtb_false_iff]; exact keyLt_irrefl a
  trans a b c _ _ _ h1 h2 := by rw [keyLtb_iff] at *; exact keyLt_trans h1 h2
  negtrans a b c _ _ _ h1 h2 := by
    rw [keyLtb_false_iff] at *
    unfold keyLt at *
    omega

def Rel (h : Array (Ev K)) (q : List (Ev K)) : Prop :=
  HeapInv keyLtb h ∧ h.toList.Perm q ∧ q.Pairwise keyLt

section rel
variable {h : Array (Ev K)} {q : List (Ev K)}

theorem Rel.heap (r : Rel h q) : HeapInv keyLtb h := r.1
theorem Rel.perm (r : Rel h q) : h.toList.Perm q := r.2.1
theorem Rel.sorted (r : Rel h q) : q.Pairwise keyLt := r.2.2

theorem Rel.empty : Rel (#[] : Array (Ev K)) [] :=
  ⟨HeapInv.empty _, List.Perm.refl _, List.Pairwise.nil⟩

theorem Rel.size_eq (r : Rel h q) : h.size = q.length := by
  simpa using r.perm.length_eq

/-- `heappush` refines stable insertion, when the new sequence number is the largest (that is how
    `EventLoop.schedule_event` assigns them) -/
theorem Rel.push (r : Rel h q) (e : Ev K)
    (hseq : ∀ x ∈ q, x.seq < e.seq) : Rel (heappush keyLtb h e) (insertEv e q) := by
  obtain ⟨h1, h2⟩ := heappush_spec_on keyLtb_strictWeak (fun _ _ => trivial) r.heap e trivial
  exact ⟨h1, (h2.trans (List.Perm.cons e r.perm)).trans (insertEv_perm e q).symm,
    insertEv_sorted e q r.sorted hseq⟩

/-- `heap[0]` is the head of the sorted list: the minimum is unique -/
theorem Rel.peek (r : Rel h q) : h[0]? = q.head? := by
  have hsize := r.size_eq
  cases q with
  | nil => simpa using hsize
  | cons e rest =>
    have hne : 0 < h.size := hsize ▸ Nat.succ_pos _
    rw [Array.getElem?_eq_getElem hne]
    rcases List.mem_cons.mp (r.perm.mem_iff.mp (Array.getElem_mem_toList hne)) with h0 | h0
    · exact congrArg some h0
    · -- `e < h[0]` in the sorted list, but nothing in the heap is below its root
      have := r.heap.root_min keyLtb_strictWeak (fun _ _ => trivial) hne e
        (r.perm.mem_iff.mpr List.mem_cons_self)
      exact absurd (sorted_head_least r.sorted _ h0) ((keyLtb_false_iff _ _).mp this)

theorem Rel.pop {e : Ev K} {rest : List (Ev K)} (r : Rel h (e :: rest)) :
    ∃ h', heappop keyLtb h = some (e, h') ∧ Rel h' rest := by
  obtain ⟨hne, h0⟩ := Array.getElem?_eq_some_iff.mp r.peek
  obtain ⟨h', hp, hinv, hperm⟩ := heappop_spec_on keyLtb_strictWeak (fun _ _ => trivial) r.heap hne
  rw [h0] at hp hperm
  exact ⟨h', hp, hinv, (hperm.symm.trans r.perm).cons_inv, (List.pairwise_cons.mp r.sorted).2⟩

theorem Rel.pop_nil (r : Rel h []) : heappop keyLtb h = none :=
  heappop_empty _ _ (by simpa using r.size_eq)

end rel

end Heap

structure HRel {K : Type} (hl : HEL K) (l : EL K) : Prop where
  now : hl.now = l.now
  nextSeq : hl.nextSeq = l.nextSeq
  rel : Heap.Rel hl.heap l.queue
  seq_lt : ∀ x ∈ l.queue, x.seq < l.nextSeq

namespace HRel
variable {K : Type}

theorem empty : HRel (HEL.empty : HEL K) EL.empty :=
  ⟨rfl, rfl, Heap.Rel.empty, by intro x hx; cases hx⟩

theorem apply {hl : HEL K} {l : EL K} (r : HRel hl l) (op : ELOp K) :
    (hl.apply op).2 = (l.apply op).2 ∧ HRel (hl.apply op).1 (l.apply op).1 := by
  -- both loops then share `now` and `nextSeq` literally
  obtain ⟨now, heap, seq⟩ := hl
  obtain ⟨_, q, _⟩ := l
  obtain ⟨hnow, hseq, hrel, hlt⟩ := r
  dsimp only at hnow hseq hrel hlt
  subst hnow hseq
  cases op with
  | schedule ts k =>
    by_cases hts : ts < now
    · simp only [HEL.apply, HEL.schedule, EL.apply_schedule, hts, ↓reduceIte]
      exact ⟨trivial, rfl, rfl, hrel, hlt⟩
    · simp only [HEL.apply, HEL.schedule, EL.apply_schedule, hts, ↓reduceIte]
      exact ⟨trivial, rfl, rfl, hrel.push _ hlt, forall_mem_insertEv.mpr
        ⟨Nat.lt_succ_self _, fun x hx => Nat.lt_succ_of_lt (hlt x hx)⟩⟩
  | pop =>
    simp only [HEL.apply, HEL.pop, EL.apply_pop]
    cases q with
    | nil =>
      rw [hrel.pop_nil]
      exact ⟨rfl, rfl, rfl, hrel, hlt⟩
    | cons e rest =>
      obtain ⟨h', hp, hrel'⟩ := hrel.pop
      rw [hp]
      exact ⟨rfl, rfl, rfl, hrel', fun x hx => hlt x (List.mem_cons_of_mem _ hx)⟩
  | peek => exact ⟨congrArg ELOut.ev hrel.peek, rfl, rfl, hrel, hlt⟩
  | clear => exact ⟨rfl, rfl, rfl, Heap.Rel.empty, fun x hx => nomatch hx⟩
  | len => exact ⟨congrArg (fun n : Nat => ELOut.num n) hrel.size_eq, rfl, rfl, hrel, hlt⟩
  | now => exact ⟨rfl, rfl, rfl, hrel, hlt⟩

theorem run {hl : HEL K} {l : EL K} (r : HRel hl l) (ops : List (ELOp K)) :
    (hl.run ops).2 = (l.run ops).2 ∧ HRel (hl.run ops).1 (l.run ops).1 := by
  induction ops generalizing hl l with
  | nil => exact ⟨rfl, r⟩
  | cons op ops ih =>
    obtain ⟨h1, h2⟩ := r.apply op
    obtain ⟨h3, h4⟩ := ih h2
    simp only [HEL.run, EL.run]
    exact ⟨by rw [h1, h3], h4⟩

end HRel
