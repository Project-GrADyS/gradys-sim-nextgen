import GradysProofs.Lemmas.NonInterfStep
import GradysProofs.Lemmas.SimRun
/-
  The unwinding induction of C13 over event-level runs (`evSteps`, Lemmas/SimRun.lean): the view of the
  nodes other than `x` is a function of the number of executed events that are not owned by `x`
  (`visCount`).
-/
set_option linter.unusedSectionVars false

namespace Sim
variable {S σ : Type} [Scalar S] (cfg : Config S) (P P₁ P₂ : NodeId → Proto S σ)

def visCount (x : NodeId) (w : World S σ) : Nat :=
  (w.rexecuted.filter (fun e => !xowned x e.kind)).length

theorem start0_visCount (x : NodeId) : visCount x (start0 cfg P) = 0 := by
  unfold visCount
  rw [(start0_ext cfg P).rexecuted.trans (init_ind (I := fun w => w.rexecuted = []) rfl id)]; rfl

theorem viewEq_execStep_other (x : NodeId) (hP : ∀ n, n ≠ x → P₁ n = P₂ n) {e₁ e₂ : Ev (EvKind S)}
    {rest₁ rest₂ : List (Ev (EvKind S))} {w₁ w₂ : World S σ} (hv : ViewEq x w₁ w₂)
    (hq₁ : w₁.loop.queue = e₁ :: rest₁) (hq₂ : w₂.loop.queue = e₂ :: rest₂)
    (hs₁ : SortedTs w₁.loop.queue) (hs₂ : SortedTs w₂.loop.queue) (he₁ : xowned x e₁.kind = false)
    (he₂ : xowned x e₂.kind = false) :
    ViewEq x (execStep cfg P₁ e₁ rest₁ w₁) (execStep cfg P₂ e₂ rest₂ w₂) := by
  -- `ViewEq` says nothing about the clocks.  The heads of the two queues are the heads of the two
  -- (equal) queue views, so they have the same time and kind (`hhead`), and the pop sets both clocks
  -- to that time.
  have hq := hv.queue
  rw [hq₁, hq₂, qview_cons_other x e₁ rest₁ he₁, qview_cons_other x e₂ rest₂ he₂] at hq
  obtain ⟨hhead, hrest⟩ := List.cons.inj hq
  have hc : Cong x (popped e₁ rest₁ w₁) (popped e₂ rest₂ w₂) :=
    ⟨{ hv with queue := hrest }, congrArg Prod.fst hhead, (hq₁ ▸ hs₁).tail, (hq₂ ▸ hs₂).tail⟩
  exact ((cong_execEv cfg P₁ P₂ hP e₁ e₂ (congrArg Prod.snd hhead) he₁ hc).hid
    (hid_hooks cfg x e₁.ts _) (hid_hooks cfg x e₂.ts _)).view

/-- what becomes of the view in the second case takes two runs to say: `viewEq_execStep_other` -/
theorem evStep_hidden_or_visible (x : NodeId) (hs : Silent x P) (w : World S σ) :
    (ViewEq x w (evStep cfg P w) ∧ visCount x (evStep cfg P w) = visCount x w) ∨
    (∃ e rest, w.loop.queue = e :: rest ∧ xowned x e.kind = false ∧
      visCount x (evStep cfg P w) = visCount x w + 1) := by
  cases hq : w.loop.queue with
  | nil => rw [evStep_nil cfg P hq]; exact Or.inl ⟨ViewEq.refl x w, rfl⟩
  | cons e rest =>
    have hc : visCount x (evStep cfg P w) =
        ((e :: w.rexecuted).filter (fun e => !xowned x e.kind)).length := by
      rw [evStep_cons cfg P hq]
      unfold visCount
      rw [(execStep_ext cfg P e rest w).rexecuted]
      rfl
    rw [hc, evStep_cons cfg P hq, List.filter_cons]
    cases he : xowned x e.kind
    · exact Or.inr ⟨e, rest, rfl, he, rfl⟩
    · exact Or.inl
        ⟨(viewEq_execEv_owned cfg P x hs e he rest w hq).trans (hid_hooks cfg x e.ts _).view, rfl⟩

section unwinding
variable (x : NodeId) (hs : Silent x P) (w : World S σ)
include hs

theorem visCount_stretch {k' k : Nat} (hk : k' ≤ k) :
    visCount x (evSteps cfg P k' w) ≤ visCount x (evSteps cfg P k w) ∧
    (visCount x (evSteps cfg P k' w) = visCount x (evSteps cfg P k w) →
      ViewEq x (evSteps cfg P k' w) (evSteps cfg P k w)) := by
  induction hk with
  | refl => exact ⟨Nat.le_refl _, fun _ => ViewEq.refl x _⟩
  | @step k _ ih =>
    rw [evSteps_succ]
    rcases evStep_hidden_or_visible cfg P x hs (evSteps cfg P k w) with ⟨hv, hc⟩ | ⟨_, _, _, _, hc⟩
    · rw [hc]; exact ⟨ih.1, fun h => (ih.2 h).trans hv⟩
    · rw [hc]
      -- the count went up, so by `ih.1` it cannot equal the earlier one
      exact ⟨Nat.le_succ_of_le ih.1, fun h => by omega⟩

/-- the visible count moves by one at a time: every count between the first and the current one was
    left by executing a visible event -/
theorem visCount_passed (k c : Nat) (h0 : visCount x w ≤ c) (hc : c < visCount x (evSteps cfg P k w)) :
    ∃ j, j < k ∧ visCount x (evSteps cfg P j w) = c ∧
      ∃ e rest, (evSteps cfg P j w).loop.queue = e :: rest ∧ xowned x e.kind = false ∧
        visCount x (evSteps cfg P (j + 1) w) = c + 1 := by
  induction k with
  | zero => exact absurd hc (Nat.not_lt.mpr h0)
  | succ k ih =>
    by_cases hlt : c < visCount x (evSteps cfg P k w)
    · obtain ⟨j, hj, h⟩ := ih hlt
      exact ⟨j, Nat.lt_succ_of_lt hj, h⟩
    · rw [evSteps_succ] at hc
      rcases evStep_hidden_or_visible cfg P x hs (evSteps cfg P k w) with
        ⟨_, hcnt⟩ | ⟨e, rest, hq, he, hcnt⟩
      · rw [hcnt] at hc; exact absurd hc hlt
      · have : visCount x (evSteps cfg P k w) = c := by omega
        exact ⟨k, Nat.lt_succ_self k, this, e, rest, hq, he, this ▸ hcnt⟩

end unwinding

section twin
variable {x : NodeId} {P₁ P₂ : NodeId → Proto S σ} (tw : Twin x P₁ P₂)
include tw

theorem cong_start0 : Cong x (start0 cfg P₁) (start0 cfg P₂) := by
  have h0 : Cong x (init0 cfg P₁) (init0 cfg P₂) :=
    ⟨{ ViewEq.refl x (init0 cfg P₁) with
        pstate := fun n hn => congrArg Proto.init (tw.agree n hn) }, rfl,
      List.Pairwise.nil, List.Pairwise.nil⟩
  have h1 : Cong x (init cfg P₁) (init cfg P₂) := by
    rw [init_eq, init_eq]
    split
    · exact cong_sched _ _ h0
    · exact h0
  exact cong_callbackAll cfg tw _ _ (h1.hid (hid_handlerInit cfg x _) (hid_handlerInit cfg x _))

/-- MAIN LEMMA.  By induction on the number of visible events: both runs left the previous count by
    executing a visible event, in worlds with equal views (induction hypothesis); that event is the
    same and keeps the views equal (U2); from there on both made hidden steps only (U1). -/
theorem view_of_visCount (hdt : 0 ≤ cfg.dt) {a b : World S σ} (ha : WInv a) (hb : WInv b)
    (hab : ViewEq x a b) :
    ∀ (n k₁ k₂ : Nat), visCount x (evSteps cfg P₁ k₁ a) = visCount x a + n →
      visCount x (evSteps cfg P₂ k₂ b) = visCount x b + n →
      ViewEq x (evSteps cfg P₁ k₁ a) (evSteps cfg P₂ k₂ b) := by
  intro n
  induction n with
  | zero =>
    intro k₁ k₂ h₁ h₂
    exact ((visCount_stretch cfg P₁ x tw.silent₁ a (Nat.zero_le k₁)).2 h₁.symm).symm.trans
      (hab.trans ((visCount_stretch cfg P₂ x tw.silent₂ b (Nat.zero_le k₂)).2 h₂.symm))
  | succ n ih =>
    intro k₁ k₂ h₁ h₂
    obtain ⟨j₁, hj₁, hc₁, e₁, rest₁, hq₁, he₁, hn₁⟩ :=
      visCount_passed cfg P₁ x tw.silent₁ a k₁ (visCount x a + n) (Nat.le_add_right _ _) (by omega)
    obtain ⟨j₂, hj₂, hc₂, e₂, rest₂, hq₂, he₂, hn₂⟩ :=
      visCount_passed cfg P₂ x tw.silent₂ b k₂ (visCount x b + n) (Nat.le_add_right _ _) (by omega)
    have hv := viewEq_execStep_other cfg P₁ P₂ x tw.agree (ih j₁ j₂ hc₁ hc₂) hq₁ hq₂
      (evSteps_inv cfg P₁ hdt j₁ ha).sortedTs (evSteps_inv cfg P₂ hdt j₂ hb).sortedTs he₁ he₂
    rw [← evStep_cons cfg P₁ hq₁, ← evStep_cons cfg P₂ hq₂, ← evSteps_succ, ← evSteps_succ] at hv
    exact ((visCount_stretch cfg P₁ x tw.silent₁ a hj₁).2 (hn₁.trans h₁.symm)).symm.trans
      (hv.trans ((visCount_stretch cfg P₂ x tw.silent₂ b hj₂).2 (hn₂.trans h₂.symm)))

theorem view_of_visCount_start0 (hdt : 0 ≤ cfg.dt) (k₁ k₂ : Nat)
    (hc : visCount x (evSteps cfg P₁ k₁ (start0 cfg P₁)) = visCount x (evSteps cfg P₂ k₂ (start0 cfg P₂))) :
    ViewEq x (evSteps cfg P₁ k₁ (start0 cfg P₁)) (evSteps cfg P₂ k₂ (start0 cfg P₂)) :=
  view_of_visCount cfg tw hdt (start0_inv cfg P₁ hdt) (start0_inv cfg P₂ hdt)
    (cong_start0 cfg tw).view _ k₁ k₂
    (by rw [start0_visCount, Nat.zero_add]) (by rw [start0_visCount, Nat.zero_add, hc])

theorem ptrace_prefix_of_visCount_le (hdt : 0 ≤ cfg.dt) (k₁ k₂ : Nat)
    (hle : visCount x (evSteps cfg P₁ k₁ (start0 cfg P₁)) ≤
      visCount x (evSteps cfg P₂ k₂ (start0 cfg P₂))) :
    ptrace x (evSteps cfg P₁ k₁ (start0 cfg P₁)) <+: ptrace x (evSteps cfg P₂ k₂ (start0 cfg P₂)) := by
  rcases Nat.lt_or_eq_of_le hle with hlt | heq
  · obtain ⟨j, hj, hc, _⟩ := visCount_passed cfg P₂ x tw.silent₂ _ k₂ _
      (start0_visCount cfg P₂ x ▸ Nat.zero_le _) hlt
    rw [(view_of_visCount_start0 cfg tw hdt k₁ j hc.symm).ptrace_eq]
    exact List.reverse_prefix.mpr ((evSteps_mono cfg P₂ _ (Nat.le_of_lt hj)).2.filter _)
  · rw [(view_of_visCount_start0 cfg tw hdt k₁ k₂ heq).ptrace_eq]
    exact List.prefix_refl _

end twin

end Sim
