import GradysModel.Sim
/-
  The simulator model as equations.  For each function of `GradysModel/Sim.lean`, in the order of that
  file: the equations or the case principle the later files reason from, and under it the proof-only
  definitions that name its parts (`drawCost`/`drawPasses`, `deliveryEv`, `copyDelivered`, `handled`,
  `arm`/`disarm`, `Request.isInert`, `verdict`/`effect`, `Request.isSetTimer`, `tickNode`, `init0`, `popped`,
  `hooks`, `prep`).  Then the two reachability predicates.
-/
set_option linter.unusedSectionVars false

namespace Sim
variable {S σ : Type} [Scalar S]

theorem _root_.World.mem_trace {w : World S σ} {o : Obs S} : o ∈ w.trace ↔ o ∈ w.rtrace := List.mem_reverse

theorem _root_.World.filter_trace (w : World S σ) (p : Obs S → Bool) :
    w.trace.filter p = (w.rtrace.filter p).reverse := List.filter_reverse

theorem _root_.World.mem_executed {w : World S σ} {e : Ev (EvKind S)} : e ∈ w.executed ↔ e ∈ w.rexecuted :=
  List.mem_reverse

theorem _root_.World.executed_length (w : World S σ) : w.executed.length = w.rexecuted.length :=
  List.length_reverse

theorem _root_.World.executed_eq_nil {w : World S σ} : w.executed = [] ↔ w.rexecuted = [] :=
  List.reverse_eq_nil_iff

theorem _root_.World.executed_prefix {w w' : World S σ} :
    w.executed <+: w'.executed ↔ w.rexecuted <:+ w'.rexecuted := List.reverse_prefix

theorem upd_self {α : Type} (f : NodeId → α) (n : NodeId) (a : α) : upd f n a n = a := by
  simp [upd]

theorem upd_ne {α : Type} (f : NodeId → α) (n : NodeId) (a : α) {m : NodeId} (h : m ≠ n) :
    upd f n a m = f m := by
  simp [upd, h]

theorem trace_countP (w : World S σ) (p : Obs S → Bool) : w.trace.countP p = w.rtrace.countP p :=
  List.countP_reverse
theorem executed_countP (w : World S σ) (p : Ev (EvKind S) → Bool) : w.executed.countP p = w.rexecuted.countP p :=
  List.countP_reverse
theorem accepted_countP (w : World S σ) (p : Ev (EvKind S) → Bool) : w.accepted.countP p = w.raccepted.countP p :=
  List.countP_reverse

@[simp] theorem sched_raccepted (ts : Int) (k : EvKind S) (w : World S σ) :
    (sched ts k w).raccepted = ⟨ts, w.loop.nextSeq, k⟩ :: w.raccepted := rfl
theorem sched_loop (ts : Int) (k : EvKind S) (w : World S σ) : (sched ts k w).loop = w.loop.push ts k := rfl
@[simp] theorem sched_queue (ts : Int) (k : EvKind S) (w : World S σ) :
    (sched ts k w).loop.queue = insertEv ⟨ts, w.loop.nextSeq, k⟩ w.loop.queue := rfl
@[simp] theorem sched_nextSeq (ts : Int) (k : EvKind S) (w : World S σ) :
    (sched ts k w).loop.nextSeq = w.loop.nextSeq + 1 := rfl
@[simp] theorem sched_now (ts : Int) (k : EvKind S) (w : World S σ) : (sched ts k w).loop.now = w.loop.now := rfl
@[simp] theorem sched_pos (ts : Int) (k : EvKind S) (w : World S σ) : (sched ts k w).pos = w.pos := rfl
@[simp] theorem sched_range (ts : Int) (k : EvKind S) (w : World S σ) : (sched ts k w).range = w.range := rfl
@[simp] theorem sched_pending (ts : Int) (k : EvKind S) (w : World S σ) : (sched ts k w).pending = w.pending := rfl
@[simp] theorem sched_nextTimer (ts : Int) (k : EvKind S) (w : World S σ) : (sched ts k w).nextTimer = w.nextTimer := rfl
@[simp] theorem sched_target (ts : Int) (k : EvKind S) (w : World S σ) : (sched ts k w).target = w.target := rfl
@[simp] theorem sched_speed (ts : Int) (k : EvKind S) (w : World S σ) : (sched ts k w).speed = w.speed := rfl
@[simp] theorem sched_rtrace (ts : Int) (k : EvKind S) (w : World S σ) : (sched ts k w).rtrace = w.rtrace := rfl

def drawCost (cfg : Config S) : Nat := if Scalar.gt cfg.failRate (Scalar.ofInt 0) then 1 else 0

def drawPasses (cfg : Config S) (w : World S σ) : Bool :=
  if Scalar.gt cfg.failRate (Scalar.ofInt 0) then Scalar.gt (cfg.draws w.drawIdx) cfg.failRate else true

theorem consumeDraw_fst (cfg : Config S) (w : World S σ) : (consumeDraw cfg w).1 = drawPasses cfg w := by
  unfold consumeDraw drawPasses; split <;> rfl

theorem consumeDraw_snd (cfg : Config S) (w : World S σ) :
    (consumeDraw cfg w).2 = { w with drawIdx := w.drawIdx + drawCost cfg } := by
  unfold consumeDraw drawCost; split <;> rfl

theorem deliverTime_eq (cfg : Config S) (w : World S σ) : deliverTime cfg w = w.loop.now + max cfg.delay 0 := by
  unfold deliverTime
  split
  · rename_i h; rw [Int.max_eq_right h, Int.add_zero]
  · rename_i h; rw [Int.max_eq_left (Int.le_of_lt (Int.not_le.mp h))]

theorem deliverTime_ge (cfg : Config S) (w : World S σ) : w.loop.now ≤ deliverTime cfg w := by
  rw [deliverTime_eq]
  exact Int.le_add_of_nonneg_right (Int.le_max_right _ _)

/-- the delivery event a successful copy creates: no position, no range in it -/
def deliveryEv (cfg : Config S) (w : World S σ) (src dst : NodeId) (msg : String) : Ev (EvKind S) :=
  ⟨deliverTime cfg w, w.loop.nextSeq, .deliver dst src msg⟩

theorem deliveryEv_eq (cfg : Config S) (w : World S σ) (src dst : NodeId) (msg : String) :
    deliveryEv cfg w src dst msg = ⟨w.loop.now + max cfg.delay 0, w.loop.nextSeq, .deliver dst src msg⟩ := by
  unfold deliveryEv; rw [deliverTime_eq]

theorem inRange_eq (w : World S σ) (src dst : NodeId) :
    inRange w src dst = Scalar.le (V3.sqdist (w.pos src) (w.pos dst)) (Scalar.sq (w.range src)) := rfl

/-- the whole decision of `can_transmit` -/
def copyDelivered (cfg : Config S) (w : World S σ) (src dst : NodeId) : Bool :=
  drawPasses cfg w && inRange w src dst

theorem transmit_eq (cfg : Config S) (src dst : NodeId) (msg : String) (w : World S σ) :
    transmit cfg src dst msg w =
      if copyDelivered cfg w src dst then
        sched (deliverTime cfg w) (.deliver dst src msg) { w with drawIdx := w.drawIdx + drawCost cfg }
      else { w with drawIdx := w.drawIdx + drawCost cfg } := by
  unfold transmit copyDelivered
  simp only [consumeDraw_fst, consumeDraw_snd]
  rfl

theorem broadcastTo_nil (cfg : Config S) (src : NodeId) (msg : String) (w : World S σ) :
    broadcastTo cfg src msg [] w = w := rfl

theorem broadcastTo_cons (cfg : Config S) (src : NodeId) (msg : String) (d : NodeId)
    (ds : List NodeId) (w : World S σ) :
    broadcastTo cfg src msg (d :: ds) w =
      broadcastTo cfg src msg ds (if d = src then w else transmit cfg src d msg w) := rfl

/-- the handler that serves the request is configured -/
def handled (cfg : Config S) : Request S → Bool
  | .setTimer _ _ | .cancelTimer _ => cfg.hasTimer
  | .send _ _ | .broadcast _ | .setRange _ => cfg.hasComm
  | .goto _ | .gotoGeo _ | .setSpeed _ => cfg.hasMob

/-- an accepted `set_timer` -/
def arm (n : NodeId) (name : String) (at_ : Int) (w : World S σ) : World S σ :=
  { sched at_ (.timerFire n name (w.nextTimer n)) w with
    pending := (n, name, w.nextTimer n) :: w.pending
    nextTimer := upd w.nextTimer n (w.nextTimer n + 1) }

/-- an accepted `cancel_timer` -/
def disarm (n : NodeId) (name : String) (w : World S σ) : World S σ :=
  { w with pending := w.pending.filter (fun p => !(p.1 == n && p.2.1 == name)) }

theorem mem_arm {n : NodeId} {name : String} {at_ : Int} {w : World S σ} {p : NodeId × String × Nat} :
    p ∈ (arm n name at_ w).pending ↔ p = (n, name, w.nextTimer n) ∨ p ∈ w.pending := List.mem_cons

theorem mem_disarm {n : NodeId} {name : String} {w : World S σ} {p : NodeId × String × Nat} :
    p ∈ (disarm n name w).pending ↔ p ∈ w.pending ∧ ¬ (p.1 = n ∧ p.2.1 = name) := by
  unfold disarm
  simp only [List.mem_filter, Bool.not_eq_true', Bool.and_eq_false_imp, beq_iff_eq, beq_eq_false_iff_ne,
    ne_eq, not_and]

def _root_.Request.isInert : Request S → Bool
  | .goto _ | .gotoGeo _ | .setSpeed _ | .setRange _ => true
  | _ => false

/-- `skip`: the handler is absent (the call returns normally) or the request is refused (it raises);
    `inert`: the mobility commands and `set_transmission_range` write only `target`, `speed`, `range`. -/
theorem execReq_cases {motive : Request S → World S σ → Bool → Prop} (cfg : Config S) (n : NodeId)
    (w : World S σ)
    (skip : ∀ r ok, (ok = true → handled cfg r = false) → motive r w ok)
    (setTimer : ∀ name at_, w.loop.now ≤ at_ → motive (.setTimer name at_) (arm n name at_ w) true)
    (cancelTimer : ∀ name, motive (.cancelTimer name) (disarm n name w) true)
    (send : ∀ msg (d : Int), 0 ≤ d → d < cfg.nNodes → d ≠ n →
      motive (.send msg (some d)) (transmit cfg n d.toNat msg w) true)
    (broadcast : ∀ msg, motive (.broadcast msg) (broadcastTo cfg n msg (List.range cfg.nNodes) w) true)
    (inert : ∀ r target speed range, r.isInert = true →
      motive r { w with target := target, speed := speed, range := range } true)
    (r : Request S) : motive r (execReq cfg n r w).1 (execReq cfg n r w).2 := by
  have absent : ∀ r, (!handled cfg r) = true → motive r w true := fun r h =>
    skip r true (fun _ => Bool.not_eq_true' _ ▸ h)
  have refused : ∀ r, motive r w false := fun r => skip r false (fun h => by cases h)
  cases r with
  | setTimer name at_ =>
    simp only [execReq]
    split
    · rename_i h; exact absent _ h
    · split
      · exact refused _
      · exact setTimer name at_ (by omega)
  | cancelTimer name =>
    simp only [execReq]
    split
    · rename_i h; exact absent _ h
    · exact cancelTimer name
  | send msg dst =>
    simp only [execReq]
    split
    · rename_i h; exact absent _ h
    · split
      · exact refused _
      · split
        · exact refused _
        · split
          · exact refused _
          · rename_i d h1 h2
            exact send msg d (by omega) (by omega) h1
  | broadcast msg =>
    simp only [execReq]
    split
    · rename_i h; exact absent _ h
    · exact broadcast msg
  | goto _ | gotoGeo _ | setSpeed _ =>
    simp only [execReq]
    split
    · rename_i h; exact absent _ h
    · exact inert _ _ _ _ rfl
  | setRange r =>
    simp only [execReq]
    split
    · exact refused _
    · split
      · rename_i h; exact absent _ h
      · exact inert _ _ _ _ rfl

/-! The same function as an equation: a request is skipped or served, and of the world only the clock
    decides which.  Two runs are compared through this form (equal verdicts, then the same effect on
    both sides); it also keeps which node's entry a mobility command writes, which `inert` above forgets. -/
section served
variable (cfg : Config S)

def effect (n : NodeId) : Request S → World S σ → World S σ
  | .setTimer name at_, w => arm n name at_ w
  | .cancelTimer name, w => disarm n name w
  | .send msg (some d), w => transmit cfg n d.toNat msg w
  | .send _ none, w => w
  | .broadcast msg, w => broadcastTo cfg n msg (List.range cfg.nNodes) w
  | .goto p, w => { w with target := upd w.target n (some p) }
  | .gotoGeo p, w => { w with target := upd w.target n (some (Geo.geoToCartesian cfg.refGeo p)) }
  | .setSpeed v, w => { w with speed := upd w.speed n v }
  | .setRange r, w => { w with range := upd w.range n r }

/-- Whether a request of node `n` is skipped — its handler is absent (`some true`: the call returns
    normally) or it is refused (`some false`: the call raises) — or served (`none`). -/
def verdict (n : NodeId) (now : Int) : Request S → Option Bool
  | .setTimer _ at_ => if !cfg.hasTimer then some true else if at_ < now then some false else none
  | .cancelTimer _ => if !cfg.hasTimer then some true else none
  | .send _ dst =>
    if !cfg.hasComm then some true
    else match dst with
      | none => some false
      | some d =>
        if d = (n : Int) then some false
        else if d < 0 ∨ d ≥ (cfg.nNodes : Int) then some false else none
  | .broadcast _ => if !cfg.hasComm then some true else none
  | .goto _ | .gotoGeo _ | .setSpeed _ => if !cfg.hasMob then some true else none
  | .setRange r =>
    if Scalar.lt r (Scalar.ofInt 0) then some false else if !cfg.hasComm then some true else none

theorem execReq_eq (n : NodeId) (r : Request S) (w : World S σ) :
    execReq cfg n r w =
      (verdict cfg n w.loop.now r).elim (effect cfg n r w, true) (fun ok => (w, ok)) := by
  -- `Option.elim` moves inside the guards of `verdict`; then both sides are the same cascade
  cases r with
  | send msg dst =>
    cases dst with
    | none => simp only [execReq, verdict]; rw [apply_ite (Option.elim · _ _)]; rfl
    | some d =>
      simp only [execReq, verdict]
      rw [apply_ite (Option.elim · _ _), apply_ite (Option.elim · _ _), apply_ite (Option.elim · _ _)]
      rfl
  | setTimer name at_ =>
    simp only [execReq, verdict]; rw [apply_ite (Option.elim · _ _), apply_ite (Option.elim · _ _)]; rfl
  | setRange r =>
    simp only [execReq, verdict]; rw [apply_ite (Option.elim · _ _), apply_ite (Option.elim · _ _)]; rfl
  | _ => simp only [execReq, verdict]; rw [apply_ite (Option.elim · _ _)]; rfl

def _root_.Request.isSetTimer : Request S → Bool
  | .setTimer _ _ => true
  | _ => false

theorem verdict_congr (n : NodeId) {t t' : Int} {r : Request S}
    (h : r.isSetTimer = false ∨ t = t') : verdict cfg n t r = verdict cfg n t' r := by
  rcases h with h | rfl
  · cases r with
    | setTimer name at_ => cases h
    | _ => rfl
  · rfl

theorem execReq_setTimer (ht : cfg.hasTimer = true) (n : NodeId) (name : String) (at_ : Int) (w : World S σ) :
    execReq cfg n (.setTimer name at_) w =
      if at_ < w.loop.now then (w, false) else (arm n name at_ w, true) := by
  rw [execReq_eq]
  simp only [verdict, ht, Bool.not_true, Bool.false_eq_true, if_false]
  split <;> rfl

theorem execReq_cancelTimer (ht : cfg.hasTimer = true) (n : NodeId) (name : String) (w : World S σ) :
    execReq cfg n (.cancelTimer name) w = (disarm n name w, true) := by
  rw [execReq_eq]
  simp only [verdict, ht, Bool.not_true, Bool.false_eq_true, if_false]
  rfl

theorem execReq_send (hc : cfg.hasComm = true) (n d : Nat) (msg : String) (hd : d ≠ n) (hdn : d < cfg.nNodes)
    (w : World S σ) : execReq cfg n (.send msg (some (d : Int))) w = (transmit cfg n d msg w, true) := by
  have h1 : ¬ ((d : Int) = (n : Int)) := by omega
  have h2 : ¬ ((d : Int) < 0 ∨ (d : Int) ≥ (cfg.nNodes : Int)) := by omega
  rw [execReq_eq]
  simp only [verdict, hc, Bool.not_true, Bool.false_eq_true, if_false, h1, h2]
  simp [effect]

theorem execReq_broadcast (hc : cfg.hasComm = true) (n : NodeId) (msg : String) (w : World S σ) :
    execReq cfg n (.broadcast msg) w = (broadcastTo cfg n msg (List.range cfg.nNodes) w, true) := by
  rw [execReq_eq]
  simp only [verdict, hc, Bool.not_true, Bool.false_eq_true, if_false]
  rfl

theorem execReq_setRange (n : NodeId) (r : S) (w : World S σ) :
    execReq cfg n (.setRange r) w =
      if Scalar.lt r (Scalar.ofInt 0) then (w, false)
      else if cfg.hasComm then ({ w with range := upd w.range n r }, true) else (w, true) := by
  -- the definition has these guards, with `!cfg.hasComm` and the branches swapped
  simp only [execReq]
  cases cfg.hasComm <;> rfl

/-- `hr` holds by `rfl` for `goto`, `gotoGeo`, `setSpeed` -/
theorem execReq_mob (n : NodeId) (w : World S σ) {r : Request S}
    (hr : verdict cfg n w.loop.now r = if !cfg.hasMob then some true else none) :
    execReq cfg n r w = if cfg.hasMob then (effect cfg n r w, true) else (w, true) := by
  rw [execReq_eq, hr]; cases cfg.hasMob <;> rfl

theorem execReq_mob_fst (n : NodeId) (w : World S σ) {r : Request S}
    (hr : verdict cfg n w.loop.now r = if !cfg.hasMob then some true else none) :
    (execReq cfg n r w).1 = w ∨ (execReq cfg n r w).1 = effect cfg n r w := by
  rw [execReq_mob cfg n w hr]
  cases cfg.hasMob
  · exact Or.inl rfl
  · exact Or.inr rfl

end served

theorem runProg_req (cfg : Config S) (n : NodeId) (r : Request S) (k : Bool → Prog S σ) (w : World S σ) :
    runProg cfg n (.req r k) w =
      runProg cfg n (k (execReq cfg n r w).2) (log (.request n r (execReq cfg n r w).2) (execReq cfg n r w).1) := rfl

theorem reportedTime_cases (cfg : Config S) (w : World S σ) :
    reportedTime cfg w = w.loop.now ∨ reportedTime cfg w = 0 := by
  unfold reportedTime; split
  · exact Or.inl rfl
  · exact Or.inr rfl

theorem reportedTime_congr (cfg : Config S) {w w' : World S σ} (h : w'.loop.now = w.loop.now) :
    reportedTime cfg w' = reportedTime cfg w := by
  unfold reportedTime; rw [h]

theorem reportedTime_mono (cfg : Config S) {w w' : World S σ} (h : w.loop.now ≤ w'.loop.now) :
    reportedTime cfg w ≤ reportedTime cfg w' := by
  unfold reportedTime; split <;> omega

theorem callback_eq (cfg : Config S) (P : NodeId → Proto S σ) (n : NodeId) (cb : Callback S)
    (w : World S σ) :
    callback cfg P n cb w =
      let res := runProg cfg n ((P n).react (w.pstate n) n (reportedTime cfg w) cb)
        (log (.callback n cb (reportedTime cfg w)) w)
      { res.1 with pstate := upd res.1.pstate n res.2 } := rfl

def tickNode (cfg : Config S) (w : World S σ) (n : NodeId) : World S σ :=
  sched w.loop.now (.telemetry n (Mobility.step cfg.dtS (w.pos n) (w.target n) (w.speed n)))
    { w with pos := upd w.pos n (Mobility.step cfg.dtS (w.pos n) (w.target n) (w.speed n)) }

theorem mobTick_eq (cfg : Config S) (w : World S σ) :
    mobTick cfg w =
      sched (((List.range cfg.nNodes).foldl (tickNode cfg) w).loop.now + cfg.dt) .mobTick
        ((List.range cfg.nNodes).foldl (tickNode cfg) w) := rfl

theorem execEv_cases {motive : World S σ → Prop} (cfg : Config S) (P : NodeId → Proto S σ)
    (e : Ev (EvKind S)) (w : World S σ)
    (fire : ∀ n name id, e.kind = .timerFire n name id → (n, name, id) ∈ w.pending →
      motive (callback cfg P n (.timer name) { w with pending := w.pending.erase (n, name, id) }))
    (stale : ∀ n name id, e.kind = .timerFire n name id → (n, name, id) ∉ w.pending → motive w)
    (deliver : ∀ dst src msg, e.kind = .deliver dst src msg → motive (callback cfg P dst (.packet msg) w))
    (tick : e.kind = .mobTick → motive (mobTick cfg w))
    (telemetry : ∀ n p, e.kind = .telemetry n p → motive (callback cfg P n (.telemetry p) w)) :
    motive (execEv cfg P e w) := by
  unfold execEv
  split
  · rename_i n name id hk
    split
    · rename_i hc; exact fire n name id hk (List.contains_iff_mem.mp hc)
    · rename_i hc; exact stale n name id hk (fun h => hc (List.contains_iff_mem.mpr h))
  · rename_i dst src msg hk; exact deliver dst src msg hk
  · rename_i hk; exact tick hk
  · rename_i n p hk; exact telemetry n p hk

theorem isDone_nil {cfg : Config S} {w : World S σ} (hq : w.loop.queue = []) : isDone cfg w = true := by
  unfold isDone; rw [hq]

theorem isDone_cons (cfg : Config S) {w : World S σ} {e : Ev (EvKind S)} {rest : List (Ev (EvKind S))}
    (hq : w.loop.queue = e :: rest) :
    isDone cfg w = ((match cfg.duration with | some D => decide (D < e.ts) | none => false) ||
      (match cfg.maxIter with | some N => decide (N ≤ w.iter) | none => false)) := by
  unfold isDone; rw [hq]; rfl

theorem isDone_cons_false_iff (cfg : Config S) {w : World S σ} {e : Ev (EvKind S)} {rest : List (Ev (EvKind S))}
    (hq : w.loop.queue = e :: rest) :
    isDone cfg w = false ↔
      (∀ D, cfg.duration = some D → e.ts ≤ D) ∧ (∀ N, cfg.maxIter = some N → w.iter < N) := by
  rw [isDone_cons cfg hq]
  cases cfg.duration <;> cases cfg.maxIter <;> simp

theorem isDone_false {cfg : Config S} {w : World S σ} (hd : isDone cfg w = false) :
    ∃ e rest, w.loop.queue = e :: rest := by
  cases hq : w.loop.queue with
  | nil => rw [isDone_nil hq] at hd; cases hd
  | cons e rest => exact ⟨e, rest, rfl⟩

theorem logAll_cons (f : String → Obs S) (h : String) (hs : List String) (w : World S σ) :
    logAll f (h :: hs) w = logAll f hs (log (f h) w) := rfl

theorem callbackAll_cons (cfg : Config S) (P : NodeId → Proto S σ) (cb : Callback S) (n : NodeId)
    (ns : List NodeId) (w : World S σ) :
    callbackAll cfg P cb (n :: ns) w = callbackAll cfg P cb ns (callback cfg P n cb w) := rfl

theorem initialise_eq (cfg : Config S) (P : NodeId → Proto S σ) (w : World S σ) :
    initialise cfg P w = callbackAll cfg P .initialize (List.range cfg.nNodes)
      (logAll .handlerInit cfg.handlers { w with initialized := true }) := rfl

theorem finalise_of_finalized (cfg : Config S) (P : NodeId → Proto S σ) {w : World S σ}
    (hf : w.finalized = true) : finalise cfg P w = w := by
  unfold finalise; rw [if_pos hf]

theorem finalise_eq (cfg : Config S) (P : NodeId → Proto S σ) (w : World S σ) (hf : w.finalized = false) :
    finalise cfg P w = { (logAll Obs.handlerFinal cfg.handlers
      (callbackAll cfg P .finish (List.range cfg.nNodes) w)) with finalized := true } := by
  unfold finalise
  rw [if_neg (by simp [hf])]

def init0 (cfg : Config S) (P : NodeId → Proto S σ) : World S σ :=
  { loop := EL.empty, iter := 0, initialized := false, finalized := false, pending := [],
    nextTimer := fun _ => 0, range := fun _ => cfg.defaultRange, pos := cfg.initPos,
    target := fun _ => none, speed := fun _ => cfg.defaultSpeed, drawIdx := 0,
    pstate := fun n => (P n).init, rtrace := [], raccepted := [], rexecuted := [] }

theorem init_eq (cfg : Config S) (P : NodeId → Proto S σ) :
    init cfg P = if cfg.hasMob then sched cfg.dt .mobTick (init0 cfg P) else init0 cfg P := rfl

/-- Where `I` is a structure over fields that `sched` leaves alone, callers rebuild it from the fields of
    the hypothesis (`fun h => ⟨h.a, h.b⟩`): each has the wanted type up to unfolding `sched`. -/
theorem init_ind {cfg : Config S} {P : NodeId → Proto S σ} {I : World S σ → Prop} (h0 : I (init0 cfg P))
    (hs : I (init0 cfg P) → I (sched cfg.dt .mobTick (init0 cfg P))) : I (init cfg P) := by
  rw [init_eq]
  split
  · exact hs h0
  · exact h0

theorem init_flags (cfg : Config S) (P : NodeId → Proto S σ) :
    (init cfg P).initialized = false ∧ (init cfg P).finalized = false :=
  init_ind (I := fun w => w.initialized = false ∧ w.finalized = false) ⟨rfl, rfl⟩ id

theorem initWith_nil (cfg : Config S) (P : NodeId → Proto S σ) : initWith cfg P [] = init cfg P := rfl

theorem initWith_snoc (cfg : Config S) (P : NodeId → Proto S σ) (pre : List (NodeId × Prog S σ))
    (n : NodeId) (p : Prog S σ) :
    initWith cfg P (pre ++ [(n, p)]) = (runProg cfg n p (initWith cfg P pre)).1 := by
  unfold initWith; rw [List.foldl_append]; rfl

theorem initWith_induction {cfg : Config S} {P : NodeId → Proto S σ} {C : World S σ → Prop}
    (h0 : C (init cfg P)) (hs : ∀ n p w, C w → C (runProg cfg n p w).1)
    (pre : List (NodeId × Prog S σ)) : C (initWith cfg P pre) := by
  unfold initWith
  generalize init cfg P = w0 at h0
  induction pre generalizing w0 with
  | nil => exact h0
  | cons np rest ih => exact ih _ (hs _ _ _ h0)

/-! A step: lazy initialisation (`prep`); then the run is finalised if it is over, else the head event is
    popped (`popped`) and executed (`execEv`), the after-step hooks run (`hooks`), and the run is finalised if
    it is over now.  A step out of which the callback's exception escapes ends after `execEv`. -/

def popped (e : Ev (EvKind S)) (rest : List (Ev (EvKind S))) (w : World S σ) : World S σ :=
  { w with loop := { w.loop with queue := rest, now := e.ts }, rexecuted := e :: w.rexecuted }

section popped
variable (cfg : Config S) (e : Ev (EvKind S)) (rest : List (Ev (EvKind S))) (w : World S σ)

@[simp] theorem popped_now : (popped e rest w).loop.now = e.ts := rfl
@[simp] theorem popped_rexecuted : (popped e rest w).rexecuted = e :: w.rexecuted := rfl
@[simp] theorem popped_rtrace : (popped e rest w).rtrace = w.rtrace := rfl

theorem reportedTime_popped :
    reportedTime cfg (popped e rest w) = if cfg.hasTimer then e.ts else 0 := rfl

end popped

def hooks (cfg : Config S) (ts : Int) (w : World S σ) : World S σ :=
  let w := logAll (fun h => .afterStep h w.iter ts) cfg.handlers w
  { w with iter := w.iter + 1 }

theorem execStep_eq (cfg : Config S) (P : NodeId → Proto S σ) (e : Ev (EvKind S))
    (rest : List (Ev (EvKind S))) (w : World S σ) :
    execStep cfg P e rest w = hooks cfg e.ts (execEv cfg P e (popped e rest w)) := rfl

def prep (cfg : Config S) (P : NodeId → Proto S σ) (w : World S σ) : World S σ :=
  if w.initialized then w else initialise cfg P w

theorem prep_of_initialized {cfg : Config S} {P : NodeId → Proto S σ} {w : World S σ}
    (h : w.initialized = true) : prep cfg P w = w := if_pos h

theorem prep_of_not_initialized {cfg : Config S} {P : NodeId → Proto S σ} {w : World S σ}
    (h : w.initialized = false) : prep cfg P w = initialise cfg P w := if_neg (by simp [h])

theorem prep_cases {motive : World S σ → Prop} (cfg : Config S) (P : NodeId → Proto S σ) (w : World S σ)
    (done : w.initialized = true → motive w) (init : w.initialized = false → motive (initialise cfg P w)) :
    motive (prep cfg P w) := by
  cases hi : w.initialized with
  | true => rw [prep_of_initialized hi]; exact done hi
  | false => rw [prep_of_not_initialized hi]; exact init hi

theorem step_eq (cfg : Config S) (P : NodeId → Proto S σ) (w : World S σ) (hf : w.finalized = false) :
    step cfg P w =
      if isDone cfg (prep cfg P w) then (finalise cfg P (prep cfg P w), false)
      else match (prep cfg P w).loop.queue with
        | [] => (prep cfg P w, false)
        | e :: rest =>
          if isDone cfg (execStep cfg P e rest (prep cfg P w)) then
            (finalise cfg P (execStep cfg P e rest (prep cfg P w)), false)
          else (execStep cfg P e rest (prep cfg P w), true) := by
  unfold step prep
  rw [if_neg (by simp [hf])]
  rfl

theorem step_exec (cfg : Config S) (P : NodeId → Proto S σ) {w : World S σ} {e : Ev (EvKind S)}
    {rest : List (Ev (EvKind S))} (hf : w.finalized = false) (hd : isDone cfg (prep cfg P w) = false)
    (hq : (prep cfg P w).loop.queue = e :: rest) :
    step cfg P w =
      if isDone cfg (execStep cfg P e rest (prep cfg P w)) then
        (finalise cfg P (execStep cfg P e rest (prep cfg P w)), false)
      else (execStep cfg P e rest (prep cfg P w), true) := by
  rw [step_eq cfg P _ hf, if_neg (by simp [hd]), hq]

theorem step_finalized (cfg : Config S) (P : NodeId → Proto S σ) {w : World S σ} (hf : w.finalized = true) :
    step cfg P w = (w, false) := by
  unfold step; rw [if_pos hf]

theorem step_cases (cfg : Config S) (P : NodeId → Proto S σ) (w : World S σ) :
    (w.finalized = true ∧ step cfg P w = (w, false)) ∨
    (w.finalized = false ∧ isDone cfg (prep cfg P w) = true ∧
      step cfg P w = (finalise cfg P (prep cfg P w), false)) ∨
    (∃ e rest, w.finalized = false ∧ isDone cfg (prep cfg P w) = false ∧
      (prep cfg P w).loop.queue = e :: rest ∧
      step cfg P w =
        if isDone cfg (execStep cfg P e rest (prep cfg P w)) then
          (finalise cfg P (execStep cfg P e rest (prep cfg P w)), false)
        else (execStep cfg P e rest (prep cfg P w), true)) := by
  cases hf : w.finalized with
  | true => exact Or.inl ⟨rfl, step_finalized cfg P hf⟩
  | false =>
    cases hd : isDone cfg (prep cfg P w) with
    | true => exact Or.inr (Or.inl ⟨rfl, rfl, by rw [step_eq cfg P _ hf, if_pos hd]⟩)
    | false =>
      obtain ⟨e, rest, hq⟩ := isDone_false hd
      exact Or.inr (Or.inr ⟨e, rest, rfl, rfl, hq, step_exec cfg P hf hd hq⟩)

theorem step_false (cfg : Config S) (P : NodeId → Proto S σ) (w : World S σ) (hr : (step cfg P w).2 = false) :
    (w.finalized = true ∧ (step cfg P w).1 = w) ∨
    ∃ w', isDone cfg w' = true ∧ (step cfg P w).1 = finalise cfg P w' := by
  rcases step_cases cfg P w with ⟨hf, hs⟩ | ⟨_, hd, hs⟩ | ⟨e, rest, _, _, _, hs⟩
  · exact Or.inl ⟨hf, by rw [hs]⟩
  · exact Or.inr ⟨_, hd, by rw [hs]⟩
  · rw [hs] at hr ⊢
    by_cases hd : isDone cfg (execStep cfg P e rest (prep cfg P w)) = true
    · exact Or.inr ⟨_, hd, by rw [if_pos hd]⟩
    · rw [if_neg hd] at hr; cases hr

theorem stepRaised_cases (cfg : Config S) (P : NodeId → Proto S σ) (w : World S σ) :
    (w.finalized = true ∧ stepRaised cfg P w = w) ∨
    (w.finalized = false ∧ isDone cfg (prep cfg P w) = true ∧
      stepRaised cfg P w = finalise cfg P (prep cfg P w)) ∨
    (∃ e rest, w.finalized = false ∧ isDone cfg (prep cfg P w) = false ∧
      (prep cfg P w).loop.queue = e :: rest ∧
      stepRaised cfg P w = execEv cfg P e (popped e rest (prep cfg P w))) := by
  cases hf : w.finalized with
  | true => exact Or.inl ⟨rfl, by unfold stepRaised; rw [if_pos hf]⟩
  | false =>
    have hs : stepRaised cfg P w =
        if isDone cfg (prep cfg P w) then finalise cfg P (prep cfg P w)
        else match (prep cfg P w).loop.queue with
          | [] => prep cfg P w
          | e :: rest => execEv cfg P e (popped e rest (prep cfg P w)) := by
      unfold stepRaised prep
      rw [if_neg (by simp [hf])]
      rfl
    cases hd : isDone cfg (prep cfg P w) with
    | true => exact Or.inr (Or.inl ⟨rfl, rfl, by rw [hs, if_pos hd]⟩)
    | false =>
      obtain ⟨e, rest, hq⟩ := isDone_false hd
      exact Or.inr (Or.inr ⟨e, rest, rfl, rfl, hq, by rw [hs, if_neg (by simp [hd]), hq]⟩)

theorem steps_add (cfg : Config S) (P : NodeId → Proto S σ) (m n : Nat) (w : World S σ) :
    steps cfg P (m + n) w = steps cfg P n (steps cfg P m w) := by
  induction m generalizing w with
  | zero => simp [steps]
  | succ m ih => rw [Nat.succ_add]; exact ih _

theorem steps_finalized (cfg : Config S) (P : NodeId → Proto S σ) (m : Nat) {w : World S σ}
    (hf : w.finalized = true) : steps cfg P m w = w := by
  induction m with
  | zero => rfl
  | succ m ih => rw [steps, step_finalized cfg P hf]; exact ih

theorem start_eq_steps (cfg : Config S) (P : NodeId → Proto S σ) (fuel : Nat) (w : World S σ) :
    ∃ n, n ≤ fuel ∧ start cfg P fuel w = steps cfg P n w := by
  induction fuel generalizing w with
  | zero => exact ⟨0, Nat.le_refl _, rfl⟩
  | succ f ih =>
    simp only [start]
    split
    · obtain ⟨n, hn, e⟩ := ih (step cfg P w).1
      exact ⟨n + 1, Nat.succ_le_succ hn, by simpa [steps] using e⟩
    · exact ⟨1, Nat.succ_le_succ (Nat.zero_le _), rfl⟩

/-- A world reachable from a freshly built simulation by `step_simulation` calls and requests issued
    through the nodes' providers from OUTSIDE any callback — before the first step, between two steps
    (an external controller driving the simulation step by step), even after the run has ended — in any
    number and any order. Requests issued from inside callbacks are part of `step` itself. -/
inductive Reachable (cfg : Config S) (P : NodeId → Proto S σ) : World S σ → Prop
  | init : Reachable cfg P (init cfg P)
  | step {w : World S σ} : Reachable cfg P w → Reachable cfg P (step cfg P w).1
  | ext {w : World S σ} (n : NodeId) (p : Prog S σ) : Reachable cfg P w → Reachable cfg P (runProg cfg n p w).1

/-- `Reachable` extended by steps out of which a callback's exception escaped while the driver kept going
    (the *tolerant stepped driver*): the closure under `step`, externally issued programs and `stepRaised` -/
inductive ReachableT (cfg : Config S) (P : NodeId → Proto S σ) : World S σ → Prop
  | init : ReachableT cfg P (init cfg P)
  | step {w : World S σ} : ReachableT cfg P w → ReachableT cfg P (step cfg P w).1
  | ext {w : World S σ} (n : NodeId) (p : Prog S σ) : ReachableT cfg P w → ReachableT cfg P (runProg cfg n p w).1
  | raised {w : World S σ} : ReachableT cfg P w → ReachableT cfg P (stepRaised cfg P w)

theorem Reachable.toT {cfg : Config S} {P : NodeId → Proto S σ} {w : World S σ}
    (h : Reachable cfg P w) : ReachableT cfg P w := by
  induction h with
  | init => exact .init
  | step _ ih => exact ih.step
  | ext n p _ ih => exact ih.ext n p

theorem reachable_step {cfg : Config S} {P : NodeId → Proto S σ} {w : World S σ}
    (h : Reachable cfg P w) : Reachable cfg P (step cfg P w).1 := h.step

theorem reachable_steps {cfg : Config S} {P : NodeId → Proto S σ} {w : World S σ}
    (h : Reachable cfg P w) (n : Nat) : Reachable cfg P (steps cfg P n w) := by
  induction n generalizing w with
  | zero => exact h
  | succ n ih => exact ih h.step

theorem reachable_of_steps (cfg : Config S) (P : NodeId → Proto S σ) (n : Nat) :
    Reachable cfg P (steps cfg P n (init cfg P)) := reachable_steps .init n

theorem reachable_initWith (cfg : Config S) (P : NodeId → Proto S σ) (pre : List (NodeId × Prog S σ)) :
    Reachable cfg P (initWith cfg P pre) :=
  initWith_induction (C := fun w => Reachable cfg P w) .init (fun n p _ h => h.ext n p) pre

end Sim
