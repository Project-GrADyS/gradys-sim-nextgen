import GradysModel.Geo
import GradysProofs.RealScalar
import Mathlib.Analysis.SpecialFunctions.Trigonometric.Bounds
import Mathlib.Tactic.Positivity
/-
  Real-analysis lemmas behind C20.  The haversine formula of `GradysModel/Geo.lean` at ℝ is
  `R · 2·arcsin √a`, `a` the haversine of the central angle, for all arguments (`a` is a convex
  combination of a `sin²` and a `cos²`); the two legs of `geoToCartesian` in closed form, unsigned
  and signed, and with them `geoToCartesian` itself; the pinned variant `geoToCartesianPinned`
  (finding F20) on two targets that are mirror images in the reference meridian.
-/
open Real

namespace GeoReal

/-- Earth radius used by the source, metres -/
def R : ℝ := 6371000

theorem R_pos : 0 < R := by unfold R; norm_num

theorem two_R_pos : 0 < 2 * R := mul_pos two_pos R_pos

/-- degrees → radians (`math.radians`) -/
noncomputable def rad (x : ℝ) : ℝ := x * (π / 180)

theorem rad_eq (x : ℝ) : Scalar.radians x = rad x := rfl

theorem rad_sub (x y : ℝ) : rad x - rad y = rad (x - y) := by unfold rad; ring

theorem abs_rad_le {x d : ℝ} (h : |x| ≤ d) : |rad x| ≤ rad d := by
  have hp : 0 < π / 180 := by positivity
  unfold rad
  rw [abs_mul, abs_of_pos hp]
  exact mul_le_mul_of_nonneg_right h hp.le

theorem rad_le_rad {a b : ℝ} : rad a ≤ rad b ↔ a ≤ b :=
  mul_le_mul_iff_of_pos_right (by positivity)

theorem abs_div_two (x : ℝ) : |x / 2| = |x| / 2 := by rw [abs_div, abs_two]

theorem abs_div_two_le {x r : ℝ} (h : |x| ≤ r) : |x / 2| ≤ r / 2 :=
  (abs_div_two x).trans_le (div_le_div_of_nonneg_right h zero_le_two)

theorem abs_div_two_le' {x r : ℝ} (h : |x| ≤ 2 * r) : |x / 2| ≤ r :=
  (abs_div_two x).trans_le ((div_le_iff₀' two_pos).mpr h)

/-- the quantity `a` of the source: haversine of the central angle (arguments in radians) -/
noncomputable def havA (φ1 φ2 dl : ℝ) : ℝ :=
  sin ((φ2 - φ1) / 2) ^ 2 + cos φ1 * cos φ2 * sin (dl / 2) ^ 2

theorem havA_meridian (φ1 φ2 : ℝ) : havA φ1 φ2 0 = sin ((φ2 - φ1) / 2) ^ 2 := by
  unfold havA; simp

theorem havA_parallel (φ dl : ℝ) : havA φ φ dl = (cos φ * sin (dl / 2)) ^ 2 := by
  unfold havA; simp; ring

theorem havA_neg (φ1 φ2 dl : ℝ) : havA φ1 φ2 (-dl) = havA φ1 φ2 dl := by
  unfold havA; rw [neg_div, sin_neg, neg_sq]

theorem cos_mul_cos_eq (x y : ℝ) :
    cos x * cos y = cos ((y + x) / 2) ^ 2 - sin ((y - x) / 2) ^ 2 := by
  rw [cos_sq, sin_sq_eq_half_sub, mul_div_cancel₀ _ two_ne_zero, mul_div_cancel₀ _ two_ne_zero,
    cos_add, cos_sub]
  ring

/-- `a` is a convex combination of `sin²(Δφ/2)` and `cos²((φ₁+φ₂)/2)`, with weights
    `cos²(Δλ/2)`, `sin²(Δλ/2)`; hence `0 ≤ a ≤ 1` for all arguments -/
theorem havA_eq (φ1 φ2 dl : ℝ) :
    havA φ1 φ2 dl = sin ((φ2 - φ1) / 2) ^ 2 * (1 - sin (dl / 2) ^ 2)
      + cos ((φ2 + φ1) / 2) ^ 2 * sin (dl / 2) ^ 2 := by
  rw [havA, cos_mul_cos_eq]; ring

theorem havA_nonneg (φ1 φ2 dl : ℝ) : 0 ≤ havA φ1 φ2 dl := by
  rw [havA_eq]
  exact add_nonneg (mul_nonneg (sq_nonneg _) (sub_nonneg.mpr (sin_sq_le_one _)))
    (mul_nonneg (sq_nonneg _) (sq_nonneg _))

theorem havA_le_one (φ1 φ2 dl : ℝ) : havA φ1 φ2 dl ≤ 1 := by
  rw [havA_eq]
  calc _ ≤ 1 * (1 - sin (dl / 2) ^ 2) + 1 * sin (dl / 2) ^ 2 :=
        add_le_add (mul_le_mul_of_nonneg_right (sin_sq_le_one _) (sub_nonneg.mpr (sin_sq_le_one _)))
          (mul_le_mul_of_nonneg_right (cos_sq_le_one _) (sq_nonneg _))
    _ = 1 := by ring

theorem haversine_real (lat1 lon1 lat2 lon2 : ℝ) :
    Geo.haversine lat1 lon1 lat2 lon2
      = R * (2 * atan2R (√(havA (rad lat1) (rad lat2) (rad lon2 - rad lon1)))
              (√(1 - havA (rad lat1) (rad lat2) (rad lon2 - rad lon1)))) := by
  unfold Geo.haversine havA R rad
  simp only [RealScalar.ofInt_eq, RealScalar.add_eq, RealScalar.sub_eq, RealScalar.mul_eq,
    RealScalar.div_eq, RealScalar.sq_eq, RealScalar.sqrt_eq, RealScalar.sin_eq, RealScalar.cos_eq,
    RealScalar.atan2_eq, RealScalar.radians_eq, Int.cast_ofNat, Int.cast_one]

/-- `atan2(√a, √(1−a)) = arcsin √a` on the whole range 0 ≤ a ≤ 1 (the case a = 1 uses
    `atan2(1, 0) = π/2`) -/
theorem atan2R_sqrt {a : ℝ} (h0 : 0 ≤ a) (h1 : a ≤ 1) : atan2R (√a) (√(1 - a)) = arcsin (√a) := by
  unfold atan2R
  rcases eq_or_lt_of_le h1 with h | h
  · subst h
    simp [arcsin_one]
  · have hlt : √a < 1 := (sqrt_lt' one_pos).mpr (by rwa [one_pow])
    rw [if_pos (sqrt_pos.mpr (sub_pos.mpr h)),
      arcsin_eq_arctan ⟨neg_one_lt_zero.trans_le (sqrt_nonneg a), hlt⟩, sq_sqrt h0]

theorem atan2R_nonneg {y x : ℝ} (hy : 0 ≤ y) (hx : 0 ≤ x) : 0 ≤ atan2R y x := by
  unfold atan2R
  rcases hx.lt_or_eq with h | h
  · rw [if_pos h]; exact arctan_nonneg.mpr (div_nonneg hy hx)
  · rw [← h, if_neg (lt_irrefl 0), if_neg (lt_irrefl 0)]
    rcases hy.lt_or_eq with h' | h'
    · rw [if_pos h']; exact (half_pos pi_pos).le
    · rw [← h', if_neg (lt_irrefl 0), if_neg (lt_irrefl 0)]

theorem haversine_arcsin (lat1 lon1 lat2 lon2 : ℝ) :
    Geo.haversine lat1 lon1 lat2 lon2
      = R * (2 * arcsin (√(havA (rad lat1) (rad lat2) (rad lon2 - rad lon1)))) := by
  rw [haversine_real, atan2R_sqrt (havA_nonneg _ _ _) (havA_le_one _ _ _)]

theorem haversine_nonneg (lat1 lon1 lat2 lon2 : ℝ) : 0 ≤ Geo.haversine lat1 lon1 lat2 lon2 := by
  rw [haversine_arcsin]
  exact mul_nonneg R_pos.le (mul_nonneg zero_le_two (arcsin_nonneg.mpr (sqrt_nonneg _)))

theorem meridian_leg (lat1 lon lat2 : ℝ) (h : |rad lat2 - rad lat1| ≤ π) :
    Geo.haversine lat1 lon lat2 lon = R * |rad lat2 - rad lat1| := by
  have hd := abs_div_two_le h
  rw [haversine_arcsin, sub_self, havA_meridian, sqrt_sq_eq_abs,
    abs_sin_eq_sin_abs_of_abs_le_pi (hd.trans (half_le_self pi_pos.le)),
    arcsin_sin ((neg_nonpos.mpr (half_pos pi_pos).le).trans (abs_nonneg _)) hd, abs_div_two,
    mul_div_cancel₀ _ two_ne_zero]

theorem parallel_leg (lat lon1 lon2 : ℝ) (hc : 0 ≤ cos (rad lat)) :
    Geo.haversine lat lon1 lat lon2
      = 2 * R * arcsin (cos (rad lat) * |sin ((rad lon2 - rad lon1) / 2)|) := by
  rw [haversine_arcsin, havA_parallel, sqrt_sq_eq_abs, abs_mul, abs_of_nonneg hc, ← mul_assoc,
    mul_comm R 2]

theorem haversine_self (lat lon : ℝ) : Geo.haversine lat lon lat lon = 0 := by
  rw [meridian_leg _ _ _ (by rw [sub_self, abs_zero]; exact pi_pos.le), sub_self, abs_zero,
    mul_zero]

theorem geoToCartesian_real (ref tgt : V3 ℝ) :
    Geo.geoToCartesian ref tgt
      = ⟨(if ref.y ≤ tgt.y then 1 else -1) * Geo.haversine ref.x ref.y ref.x tgt.y,
         (if ref.x ≤ tgt.x then 1 else -1) * Geo.haversine ref.x ref.y tgt.x ref.y,
         tgt.z - ref.z⟩ := by
  unfold Geo.geoToCartesian
  simp only [RealScalar.ge_eq, RealScalar.neg_eq, RealScalar.sub_eq, ite_mul, one_mul, neg_one_mul]

/-- `geoToCartesian` signs each leg by comparing the raw coordinates.  For a leg that is an odd
    function `g` of the coordinate difference, evaluated at its absolute value, that sign rule
    gives `g` of the signed difference. -/
theorem signed_leg (g : ℝ → ℝ) (hodd : ∀ y, g (-y) = -g y) (a b : ℝ) :
    (if a ≤ b then 1 else -1) * g |rad b - rad a| = g (rad b - rad a) := by
  by_cases h : a ≤ b
  · rw [if_pos h, one_mul, abs_of_nonneg (sub_nonneg.mpr (rad_le_rad.mpr h))]
  · rw [if_neg h, neg_one_mul, abs_of_neg (sub_neg.mpr (not_le.mp (mt rad_le_rad.mp h))),
      hodd, neg_neg]

theorem signed_meridian_leg (lat1 lon lat2 : ℝ) (h : |rad lat2 - rad lat1| ≤ π) :
    (if lat1 ≤ lat2 then 1 else -1) * Geo.haversine lat1 lon lat2 lon
      = R * (rad lat2 - rad lat1) := by
  rw [meridian_leg lat1 lon lat2 h]
  exact signed_leg (fun y => R * y) (fun y => mul_neg R y) lat1 lat2

theorem signed_parallel_leg (lat lon1 lon2 : ℝ) (hc : 0 ≤ cos (rad lat))
    (h : |rad lon2 - rad lon1| ≤ π) :
    (if lon1 ≤ lon2 then 1 else -1) * Geo.haversine lat lon1 lat lon2
      = 2 * R * arcsin (cos (rad lat) * sin ((rad lon2 - rad lon1) / 2)) := by
  have hd := (abs_div_two_le h).trans (half_le_self pi_pos.le)
  rw [parallel_leg lat lon1 lon2 hc, abs_sin_eq_sin_abs_of_abs_le_pi hd, abs_div_two]
  exact signed_leg (fun y => 2 * R * arcsin (cos (rad lat) * sin (y / 2)))
    (fun y => by rw [neg_div, sin_neg, mul_neg, arcsin_neg, mul_neg]) lon1 lon2

theorem geoToCartesian_closed (ref tgt : V3 ℝ) (hc : 0 ≤ cos (rad ref.x))
    (hdφ : |rad tgt.x - rad ref.x| ≤ π) (hdl : |rad tgt.y - rad ref.y| ≤ π) :
    Geo.geoToCartesian ref tgt
      = ⟨2 * R * arcsin (cos (rad ref.x) * sin ((rad tgt.y - rad ref.y) / 2)),
         R * (rad tgt.x - rad ref.x), tgt.z - ref.z⟩ := by
  rw [geoToCartesian_real, signed_parallel_leg _ _ _ hc hdl, signed_meridian_leg _ _ _ hdφ]

theorem geoToCartesian_meridian (ref : V3 ℝ) (lat alt : ℝ) (h : |rad lat - rad ref.x| ≤ π) :
    Geo.geoToCartesian ref ⟨lat, ref.y, alt⟩ = ⟨0, R * (rad lat - rad ref.x), alt - ref.z⟩ := by
  rw [geoToCartesian_real]
  dsimp only
  rw [haversine_self, mul_zero, signed_meridian_leg _ _ _ h]

/-- the pinned `geo_to_cartesian`: the north–south leg is assigned to `x` (and signed by the
    longitude), the east–west leg to `y` (signed by the latitude) -/
def geoToCartesianPinned {S : Type} [Scalar S] (ref tgt : V3 S) : V3 S :=
  let dx := Geo.haversine ref.x ref.y tgt.x ref.y
  let dy := Geo.haversine ref.x ref.y ref.x tgt.y
  let x := if Scalar.ge tgt.y ref.y then dx else Scalar.neg dx
  let y := if Scalar.ge tgt.x ref.x then dy else Scalar.neg dy
  let z := Scalar.sub tgt.z ref.z
  ⟨x, y, z⟩

theorem geoToCartesianPinned_real (ref tgt : V3 ℝ) :
    geoToCartesianPinned ref tgt
      = ⟨(if ref.y ≤ tgt.y then 1 else -1) * Geo.haversine ref.x ref.y tgt.x ref.y,
         (if ref.x ≤ tgt.x then 1 else -1) * Geo.haversine ref.x ref.y ref.x tgt.y,
         tgt.z - ref.z⟩ := by
  unfold geoToCartesianPinned
  simp only [RealScalar.ge_eq, RealScalar.neg_eq, RealScalar.sub_eq, ite_mul, one_mul, neg_one_mul]

theorem sqrt_sqdist_mirror {d : ℝ} (hd : 0 ≤ d) (y z : ℝ) :
    √(V3.sqdist ⟨d, y, z⟩ ⟨-d, y, z⟩) = 2 * d := by
  rw [RealScalar.sqdist_eq]
  dsimp only
  rw [sub_self, sub_self, zero_pow two_ne_zero, add_zero, add_zero,
    show -d - d = -(2 * d) by ring, neg_sq, sqrt_sq (mul_nonneg zero_le_two hd)]

theorem haversine_parallel_symm (lat lon d : ℝ) :
    Geo.haversine lat lon lat (lon + d) = Geo.haversine lat lon lat (lon - d) := by
  rw [haversine_arcsin, haversine_arcsin, rad_sub, rad_sub, add_sub_cancel_left, sub_sub_cancel_left,
    show rad (-d) = -rad d by unfold rad; ring, havA_neg]

end GeoReal
