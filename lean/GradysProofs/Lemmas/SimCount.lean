import GradysProofs.Lemmas.SimLift
/-
  Run-level counting, the generic chain.  For a predicate `po` on observations, `pa` on accepted events and
  `px` on executed events, every function of the model increases  `countP pa raccepted + countP px rexecuted`
  and  `countP po rtrace`  by amounts related by an additive relation `R` (`=`, `≤`, `≥`): that is `Grow`,
  proved once for every `CountSpec`, under a condition `G` on the worlds in which requests are executed that
  can be carried along a run (`OkSteps`).  Both measures are 0 in `init`: hence `steps_count` (under `OkSteps`)
  and `reachableT_count` (no condition).  Last, what instances of `CountSpec` share.
-/
set_option linter.unusedSectionVars false

namespace Sim
variable {S σ : Type} [Scalar S]

def bit (b : Bool) : Nat := if b then 1 else 0

@[simp] theorem bit_true : bit true = 1 := rfl
@[simp] theorem bit_false : bit false = 0 := rfl
theorem bit_le_one (b : Bool) : bit b ≤ 1 := by cases b <;> simp

theorem countP_cons_bit {α : Type} (p : α → Bool) (a : α) (l : List α) :
    (a :: l).countP p = l.countP p + bit (p a) := by
  rw [List.countP_cons]; rfl

structure AddRel (R : Nat → Nat → Prop) : Prop where
  zero : R 0 0
  add : ∀ {a b c d : Nat}, R a b → R c d → R (a + c) (b + d)

theorem addRel_eq : AddRel (fun a b : Nat => a = b) := ⟨rfl, fun h1 h2 => by omega⟩
theorem addRel_le : AddRel (fun a b : Nat => a ≤ b) := ⟨Nat.le_refl _, fun h1 h2 => by omega⟩
theorem addRel_ge : AddRel (fun a b : Nat => b ≤ a) := ⟨Nat.le_refl _, fun h1 h2 => by omega⟩

def mA (pa px : Ev (EvKind S) → Bool) (w : World S σ) : Nat := w.raccepted.countP pa + w.rexecuted.countP px
def mT (po : Obs S → Bool) (w : World S σ) : Nat := w.rtrace.countP po

section measures
variable {pa px : Ev (EvKind S) → Bool} {po : Obs S → Bool}

@[simp] theorem mA_left (pa : Ev (EvKind S) → Bool) (w : World S σ) :
    mA pa (fun _ => false) w = w.raccepted.countP pa := by simp [mA]
@[simp] theorem mA_right (px : Ev (EvKind S) → Bool) (w : World S σ) :
    mA (fun _ => false) px w = w.rexecuted.countP px := by simp [mA]

theorem mT_log (o : Obs S) (w : World S σ) : mT po (log o w) = mT po w + bit (po o) := countP_cons_bit ..
theorem mA_log (o : Obs S) (w : World S σ) : mA pa px (log o w) = mA pa px w := rfl
theorem mA_sched (ts : Int) (k : EvKind S) (w : World S σ) :
    mA pa px (sched ts k w) = mA pa px w + bit (pa ⟨ts, w.loop.nextSeq, k⟩) := by
  unfold mA; rw [sched_raccepted, countP_cons_bit]; exact Nat.add_right_comm ..
theorem mA_popped (e : Ev (EvKind S)) (rest : List (Ev (EvKind S))) (w : World S σ) :
    mA pa px (popped e rest w) = mA pa px w + bit (px e) := by
  unfold mA; rw [popped_rexecuted, countP_cons_bit]; exact (Nat.add_assoc ..).symm

end measures

def Grow (R : Nat → Nat → Prop) (pa px : Ev (EvKind S) → Bool) (po : Obs S → Bool) (w w' : World S σ) : Prop :=
  ∃ da dt, mA pa px w' = mA pa px w + da ∧ mT po w' = mT po w + dt ∧ R da dt

/-- number of counted observations the execution of `e` adds directly (the callback it makes), `pend`
    telling whether the timer of a timer event is still pending, `t` the reported time -/
def evInc (po : Obs S → Bool) (t : Int) (e : Ev (EvKind S)) (pend : Bool) : Nat :=
  match e.kind with
  | .timerFire n name _ => if pend then bit (po (.callback n (.timer name) t)) else 0
  | .deliver dst _ msg => bit (po (.callback dst (.packet msg) t))
  | .mobTick => 0
  | .telemetry n p => bit (po (.callback n (.telemetry p) t))

/-! A condition `G n r w` on the worlds in which requests are executed can be carried along a run
    (`OkProg` … `OkSteps`: "`G` holds at every request the run executes").  The unconditional
    instances use `NoCond`. -/

section ok
variable (G : NodeId → Request S → World S σ → Prop) (cfg : Config S) (P : NodeId → Proto S σ)

def OkProg (n : NodeId) : Prog S σ → World S σ → Prop
  | .done _, _ => True
  | .req r k, w => G n r w ∧
      OkProg n (k (execReq cfg n r w).2) (log (.request n r (execReq cfg n r w).2) (execReq cfg n r w).1)

def OkCallback (n : NodeId) (cb : Callback S) (w : World S σ) : Prop :=
  OkProg G cfg n ((P n).react (w.pstate n) n (reportedTime cfg w) cb) (log (.callback n cb (reportedTime cfg w)) w)

def OkCallbackAll (cb : Callback S) : List NodeId → World S σ → Prop
  | [], _ => True
  | n :: ns, w => OkCallback G cfg P n cb w ∧ OkCallbackAll cb ns (callback cfg P n cb w)

def OkExecEv (e : Ev (EvKind S)) (w : World S σ) : Prop :=
  match e.kind with
  | .timerFire n name id => w.pending.contains (n, name, id) = true →
      OkCallback G cfg P n (.timer name) { w with pending := w.pending.erase (n, name, id) }
  | .deliver dst _ msg => OkCallback G cfg P dst (.packet msg) w
  | .mobTick => True
  | .telemetry n p => OkCallback G cfg P n (.telemetry p) w

def OkInitialise (w : World S σ) : Prop :=
  OkCallbackAll G cfg P .initialize (List.range cfg.nNodes)
    (logAll .handlerInit cfg.handlers { w with initialized := true })

def OkFinalise (w : World S σ) : Prop :=
  w.finalized = false → OkCallbackAll G cfg P .finish (List.range cfg.nNodes) w

def OkPrep (w : World S σ) : Prop := w.initialized = false → OkInitialise G cfg P w

def OkStep (w : World S σ) : Prop :=
  w.finalized = false →
    OkPrep G cfg P w ∧
    OkFinalise G cfg P (prep cfg P w) ∧
    (∀ e rest, (prep cfg P w).loop.queue = e :: rest →
      OkExecEv G cfg P e (popped e rest (prep cfg P w)) ∧
      OkFinalise G cfg P (execStep cfg P e rest (prep cfg P w)))

def OkSteps : Nat → World S σ → Prop
  | 0, _ => True
  | k + 1, w => OkStep G cfg P w ∧ OkSteps k (step cfg P w).1

/-- `G` at every request issued through the providers before the first step -/
def OkPre (G : NodeId → Request S → World S σ → Prop) (cfg : Config S) :
    List (NodeId × Prog S σ) → World S σ → Prop
  | [], _ => True
  | np :: rest, w => OkProg G cfg np.1 np.2 w ∧ OkPre G cfg rest (runProg cfg np.1 np.2 w).1

variable {G cfg P}

theorem okProg_of_forall (hG : ∀ n r w, G n r w) (n : NodeId) (p : Prog S σ) (w : World S σ) :
    OkProg G cfg n p w := by
  induction p generalizing w with
  | done s => trivial
  | req r k ih => exact ⟨hG n r w, ih _ _⟩

theorem okCallbackAll_of_forall (hG : ∀ n r w, G n r w) (cb : Callback S) (ns : List NodeId)
    (w : World S σ) : OkCallbackAll G cfg P cb ns w := by
  induction ns generalizing w with
  | nil => trivial
  | cons n ns ih => exact ⟨okProg_of_forall hG _ _ _, ih _⟩

theorem okExecEv_of_forall (hG : ∀ n r w, G n r w) (e : Ev (EvKind S)) (w : World S σ) :
    OkExecEv G cfg P e w := by
  obtain ⟨ts, seq, kind⟩ := e
  cases kind with
  | timerFire n name id => exact fun _ => okProg_of_forall hG _ _ _
  | deliver dst src msg | telemetry n p => exact okProg_of_forall hG _ _ _
  | mobTick => trivial

theorem okPrep_of_forall (hG : ∀ n r w, G n r w) (w : World S σ) : OkPrep G cfg P w :=
  fun _ => okCallbackAll_of_forall hG _ _ _

theorem okFinalise_of_forall (hG : ∀ n r w, G n r w) (w : World S σ) : OkFinalise G cfg P w :=
  fun _ => okCallbackAll_of_forall hG _ _ _

theorem okStep_of_forall (hG : ∀ n r w, G n r w) (w : World S σ) : OkStep G cfg P w :=
  fun _ => ⟨okPrep_of_forall hG w, okFinalise_of_forall hG _,
    fun e _ _ => ⟨okExecEv_of_forall hG e _, okFinalise_of_forall hG _⟩⟩

theorem okSteps_of_forall (hG : ∀ n r w, G n r w) (k : Nat) (w : World S σ) : OkSteps G cfg P k w := by
  induction k generalizing w with
  | zero => trivial
  | succ k ih => exact ⟨okStep_of_forall hG w, ih _⟩

theorem okPre_of_forall (hG : ∀ n r w, G n r w) (pre : List (NodeId × Prog S σ)) (w : World S σ) :
    OkPre G cfg pre w := by
  induction pre generalizing w with
  | nil => trivial
  | cons np rest ih => exact ⟨okProg_of_forall hG _ _ _, ih _⟩

end ok

abbrev NoCond : NodeId → Request S → World S σ → Prop := fun _ _ _ => True

theorem noCond (n : NodeId) (r : Request S) (w : World S σ) : NoCond n r w := trivial

/-- what the generic chain needs to know about the predicates, all but the balance of one executed event
    (`CountSpec.exec`): SimFired.lean supplies that itself, from `QP`, as `=` fails for a cancelled timer's event -/
structure CountSpec0 (σ : Type) (cfg : Config S) (R : Nat → Nat → Prop) (pa px : Ev (EvKind S) → Bool)
    (po : Obs S → Bool) (G : NodeId → Request S → World S σ → Prop) : Prop where
  rel : AddRel R
  /-- one request (executed in a world satisfying `G`): the accepted events it creates vs its own
      `request` observation -/
  req : ∀ (n : NodeId) (r : Request S) (w : World S σ), G n r w → ∃ da,
    (execReq cfg n r w).1.raccepted.countP pa = w.raccepted.countP pa + da ∧
    R da (bit (po (.request n r (execReq cfg n r w).2)))
  /-- the mobility update's events and the lifecycle's observations are not counted: nothing stands against them -/
  mob : ∀ ts seq, pa ⟨ts, seq, .mobTick⟩ = false ∧ ∀ n p, pa ⟨ts, seq, .telemetry n p⟩ = false
  life : (∀ h, po (.handlerInit h) = false) ∧ (∀ h i t, po (.afterStep h i t) = false) ∧
    (∀ h, po (.handlerFinal h) = false) ∧ (∀ n t, po (.callback n .initialize t) = false) ∧
    (∀ n t, po (.callback n .finish t) = false)

structure CountSpec (σ : Type) (cfg : Config S) (R : Nat → Nat → Prop) (pa px : Ev (EvKind S) → Bool)
    (po : Obs S → Bool) (G : NodeId → Request S → World S σ → Prop) : Prop
    extends CountSpec0 σ cfg R pa px po G where
  /-- executing `e`: its own count on the executed side vs the callback observation it makes; the time is the
      one reported after the pop (`reportedTime_popped`) -/
  exec : ∀ (e : Ev (EvKind S)) (pend : Bool), R (bit (px e)) (evInc po (if cfg.hasTimer then e.ts else 0) e pend)

section chain
variable {R : Nat → Nat → Prop} {pa px : Ev (EvKind S) → Bool} {po : Obs S → Bool}
  {G : NodeId → Request S → World S σ → Prop}

theorem Grow.refl (hR : AddRel R) (w : World S σ) : Grow R pa px po w w := ⟨0, 0, rfl, rfl, hR.zero⟩

theorem Grow.trans (hR : AddRel R) {a b c : World S σ} (h1 : Grow R pa px po a b) (h2 : Grow R pa px po b c) :
    Grow R pa px po a c := by
  obtain ⟨da1, dt1, ha1, ht1, r1⟩ := h1
  obtain ⟨da2, dt2, ha2, ht2, r2⟩ := h2
  exact ⟨da1 + da2, dt1 + dt2, by rw [ha2, ha1, Nat.add_assoc], by rw [ht2, ht1, Nat.add_assoc], hR.add r1 r2⟩

theorem Grow.of_eq (hR : AddRel R) {w w' : World S σ} (h1 : w'.rtrace = w.rtrace)
    (h2 : w'.raccepted = w.raccepted) (h3 : w'.rexecuted = w.rexecuted) : Grow R pa px po w w' :=
  ⟨0, 0, by unfold mA; rw [h2, h3]; rfl, by unfold mT; rw [h1]; rfl, hR.zero⟩

theorem grow_log_uncounted (hR : AddRel R) (o : Obs S) (ho : po o = false) (w : World S σ) :
    Grow R pa px po w (log o w) :=
  ⟨0, 0, rfl, by rw [mT_log, ho]; rfl, hR.zero⟩

theorem grow_sched_uncounted (hR : AddRel R) (ts : Int) (k : EvKind S) (w : World S σ)
    (hk : pa ⟨ts, w.loop.nextSeq, k⟩ = false) : Grow R pa px po w (sched ts k w) :=
  ⟨0, 0, by rw [mA_sched, hk]; rfl, rfl, hR.zero⟩

theorem grow_logAll (hR : AddRel R) (f : String → Obs S) (hf : ∀ h, po (f h) = false) (hs : List String)
    (w : World S σ) : Grow R pa px po w (logAll f hs w) :=
  rel_foldl (Grow.refl hR) (.trans hR) _ (fun w h => grow_log_uncounted hR _ (hf h) w) hs w

variable {cfg : Config S}

theorem grow_runProg (hs : CountSpec0 σ cfg R pa px po G) (n : NodeId) (p : Prog S σ) (w : World S σ)
    (hok : OkProg G cfg n p w) : Grow R pa px po w (runProg cfg n p w).1 := by
  induction p generalizing w with
  | done s => exact Grow.refl hs.rel w
  | req r k ih =>
    obtain ⟨da, hda, hr⟩ := hs.req n r w hok.1
    have hf := (ReqFrame.prims cfg).execReq n r w
    have h1 : Grow R pa px po w (log (.request n r (execReq cfg n r w).2) (execReq cfg n r w).1) :=
      ⟨da, _, by rw [mA_log]; unfold mA; rw [hda, hf.rexecuted]; omega,
        by rw [mT_log]; unfold mT; rw [hf.rtrace], hr⟩
    exact h1.trans hs.rel (ih _ _ hok.2)

/-- once its own observation is logged, a callback is a balanced program -/
theorem grow_callback (hs : CountSpec0 σ cfg R pa px po G) (P : NodeId → Proto S σ) (n : NodeId)
    (cb : Callback S) (w : World S σ) (hok : OkCallback G cfg P n cb w) :
    Grow R pa px po (log (.callback n cb (reportedTime cfg w)) w) (callback cfg P n cb w) :=
  (grow_runProg hs n _ _ hok).trans hs.rel (Grow.of_eq hs.rel rfl rfl rfl)

theorem grow_callbackAll (hs : CountSpec0 σ cfg R pa px po G) (P : NodeId → Proto S σ) (cb : Callback S)
    (h0 : ∀ n t, po (.callback n cb t) = false) (ns : List NodeId) (w : World S σ)
    (hok : OkCallbackAll G cfg P cb ns w) : Grow R pa px po w (callbackAll cfg P cb ns w) := by
  induction ns generalizing w with
  | nil => exact Grow.refl hs.rel w
  | cons n ns ih =>
    rw [callbackAll_cons]
    exact ((grow_log_uncounted hs.rel _ (h0 n _) w).trans hs.rel (grow_callback hs P n cb w hok.1)).trans hs.rel
      (ih _ hok.2)

theorem grow_mobTick (hs : CountSpec0 σ cfg R pa px po G) (w : World S σ) :
    Grow R pa px po w (mobTick cfg w) := by
  rw [mobTick_eq]
  have hnode : ∀ (w : World S σ) n, Grow R pa px po w (tickNode cfg w n) := fun w n =>
    (Grow.of_eq hs.rel (w' := { w with pos := _ }) rfl rfl rfl).trans hs.rel
      (grow_sched_uncounted hs.rel _ _ _ ((hs.mob _ _).2 _ _))
  exact (rel_foldl (Grow.refl hs.rel) (.trans hs.rel) (tickNode cfg) hnode _ w).trans hs.rel
    (grow_sched_uncounted hs.rel _ _ _ (hs.mob _ _).1)

def pendOf (e : Ev (EvKind S)) (w : World S σ) : Bool :=
  match e.kind with
  | .timerFire n name id => w.pending.contains (n, name, id)
  | _ => false

/-- the head event consumed and its callback run, given the balance `hex` between the executed event
    and the callback it makes: what a step does out of which the callback's exception escapes -/
theorem grow_execEv_popped (hs : CountSpec0 σ cfg R pa px po G) (P : NodeId → Proto S σ) (e : Ev (EvKind S))
    (rest : List (Ev (EvKind S))) (w : World S σ) (hok : OkExecEv G cfg P e (popped e rest w))
    (hex : R (bit (px e)) (evInc po (if cfg.hasTimer then e.ts else 0) e (pendOf e (popped e rest w)))) :
    Grow R pa px po w (execEv cfg P e (popped e rest w)) := by
  have hpop : R (bit (px e)) 0 → Grow R pa px po w (popped e rest w) := fun hr => ⟨_, 0, mA_popped e rest w, rfl, hr⟩
  -- the time the callback reports is the `if` below by `reportedTime_popped`, a `rfl`
  have hcb : ∀ (n : NodeId) (cb : Callback S) (pend : List (NodeId × String × Nat)),
      R (bit (px e)) (bit (po (.callback n cb (if cfg.hasTimer then e.ts else 0)))) →
      OkCallback G cfg P n cb { popped e rest w with pending := pend } →
      Grow R pa px po w (callback cfg P n cb { popped e rest w with pending := pend }) :=
    fun n cb pend hr hok =>
      have h1 : Grow R pa px po w
          (log (.callback n cb (if cfg.hasTimer then e.ts else 0)) { popped e rest w with pending := pend }) :=
        ⟨_, _, mA_popped e rest w, mT_log .., hr⟩
      h1.trans hs.rel (grow_callback hs P n cb _ hok)
  -- `OkExecEv` and `pendOf` test `pending.contains` as `execEv` itself does (`execEv_cases` speaks of
  -- `∈`), so the event is taken apart here
  obtain ⟨ts, seq, kind⟩ := e
  cases kind with
  | timerFire n name id =>
    simp only [evInc, pendOf] at hex
    simp only [execEv]
    split
    · rename_i hc; rw [if_pos hc] at hex; exact hcb n (.timer name) _ hex (hok hc)
    · rename_i hc; rw [if_neg hc] at hex; exact hpop hex
  | deliver dst src msg => exact hcb dst (.packet msg) w.pending hex hok
  | mobTick => exact (hpop hex).trans hs.rel (grow_mobTick hs _)
  | telemetry n p => exact hcb n (.telemetry p) w.pending hex hok

theorem grow_hooks (hs : CountSpec0 σ cfg R pa px po G) (ts : Int) (w : World S σ) :
    Grow R pa px po w (hooks cfg ts w) := by
  obtain ⟨-, hafter, -⟩ := hs.life
  exact (grow_logAll hs.rel _ (fun _ => hafter _ _ _) _ w).trans hs.rel (Grow.of_eq hs.rel rfl rfl rfl)

theorem grow_prep (hs : CountSpec0 σ cfg R pa px po G) (P : NodeId → Proto S σ) (w : World S σ)
    (hok : OkPrep G cfg P w) : Grow R pa px po w (prep cfg P w) := by
  obtain ⟨hinit, -, -, hcb, -⟩ := hs.life
  refine prep_cases cfg P w (fun _ => Grow.refl hs.rel w) fun hi => ?_
  rw [initialise_eq]
  exact ((Grow.of_eq hs.rel (w' := { w with initialized := true }) rfl rfl rfl).trans hs.rel
    (grow_logAll hs.rel _ hinit _ _)).trans hs.rel (grow_callbackAll hs P .initialize hcb _ _ (hok hi))

theorem grow_finalise (hs : CountSpec0 σ cfg R pa px po G) (P : NodeId → Proto S σ) (w : World S σ)
    (hok : OkFinalise G cfg P w) : Grow R pa px po w (finalise cfg P w) := by
  obtain ⟨-, -, hfinal, -, hcb⟩ := hs.life
  cases hf : w.finalized with
  | true => rw [finalise_of_finalized cfg P hf]; exact Grow.refl hs.rel w
  | false =>
    rw [finalise_eq cfg P w hf]
    exact ((grow_callbackAll hs P .finish hcb (List.range cfg.nNodes) w (hok hf)).trans hs.rel
      (grow_logAll hs.rel Obs.handlerFinal hfinal cfg.handlers _)).trans hs.rel (Grow.of_eq hs.rel rfl rfl rfl)

theorem grow_step (hs : CountSpec σ cfg R pa px po G) (P : NodeId → Proto S σ) (w : World S σ)
    (hok : OkStep G cfg P w) : Grow R pa px po w (step cfg P w).1 := by
  rcases step_cases cfg P w with ⟨_, h⟩ | ⟨hf, _, h⟩ | ⟨e, rest, hf, _, hq, h⟩
  · rw [h]; exact Grow.refl hs.rel w
  · rw [h]
    obtain ⟨ok1, ok2, _⟩ := hok hf
    exact (grow_prep hs.toCountSpec0 P w ok1).trans hs.rel (grow_finalise hs.toCountSpec0 P _ ok2)
  · rw [h]
    obtain ⟨ok1, _, ok3⟩ := hok hf
    have h2 := ((grow_prep hs.toCountSpec0 P w ok1).trans hs.rel
      (grow_execEv_popped hs.toCountSpec0 P e rest _ (ok3 e rest hq).1 (hs.exec e _))).trans hs.rel
      (grow_hooks hs.toCountSpec0 e.ts _)
    split
    · exact h2.trans hs.rel (grow_finalise hs.toCountSpec0 P _ (ok3 e rest hq).2)
    · exact h2

theorem grow_steps (hs : CountSpec σ cfg R pa px po G) (P : NodeId → Proto S σ) (k : Nat) (w : World S σ)
    (hok : OkSteps G cfg P k w) : Grow R pa px po w (steps cfg P k w) := by
  induction k generalizing w with
  | zero => exact Grow.refl hs.rel w
  | succ k ih => exact (grow_step hs P w hok.1).trans hs.rel (ih _ hok.2)

/-- both measures start at zero, so whatever grew from the freshly built world is balanced -/
theorem count_of_grow (hs : CountSpec0 σ cfg R pa px po G) {P : NodeId → Proto S σ} {w : World S σ}
    (g : Grow R pa px po (init cfg P) w) : R (mA pa px w) (mT po w) := by
  obtain ⟨da, dt, ha, ht, hr⟩ := g
  have h0 := init_ind (cfg := cfg) (P := P) (I := fun w => mA pa px w = 0 ∧ mT po w = 0) ⟨rfl, rfl⟩
    fun h => ⟨by rw [mA_sched, h.1, (hs.mob _ _).1]; rfl, h.2⟩
  rw [ha, ht, h0.1, h0.2]
  simpa using hr

theorem grow_pre (hs : CountSpec0 σ cfg R pa px po G) (pre : List (NodeId × Prog S σ)) (w : World S σ)
    (hok : OkPre G cfg pre w) :
    Grow R pa px po w (pre.foldl (fun w np => (runProg cfg np.1 np.2 w).1) w) := by
  induction pre generalizing w with
  | nil => exact Grow.refl hs.rel w
  | cons np rest ih => exact (grow_runProg hs np.1 np.2 w hok.1).trans hs.rel (ih _ hok.2)

theorem steps_count_pre (hs : CountSpec σ cfg R pa px po G) (P : NodeId → Proto S σ)
    (pre : List (NodeId × Prog S σ)) (k : Nat) (hpre : OkPre G cfg pre (init cfg P))
    (hok : OkSteps G cfg P k (initWith cfg P pre)) :
    R (mA pa px (steps cfg P k (initWith cfg P pre))) (mT po (steps cfg P k (initWith cfg P pre))) :=
  count_of_grow hs.toCountSpec0 ((grow_pre hs.toCountSpec0 pre (init cfg P) hpre).trans hs.rel
    (grow_steps hs P k (initWith cfg P pre) hok))

theorem steps_count (hs : CountSpec σ cfg R pa px po G) (P : NodeId → Proto S σ) (k : Nat)
    (hok : OkSteps G cfg P k (init cfg P)) :
    R (mA pa px (steps cfg P k (init cfg P))) (mT po (steps cfg P k (init cfg P))) :=
  steps_count_pre hs P [] k trivial hok

theorem grow_stepRaised (hs : CountSpec σ cfg R pa px po NoCond) (P : NodeId → Proto S σ) (w : World S σ) :
    Grow R pa px po w (stepRaised cfg P w) :=
  stepRaised_keeps (I := Grow R pa px po w)
    (fun x g => g.trans hs.rel (grow_prep hs.toCountSpec0 P x (okPrep_of_forall noCond x)))
    (fun x g => g.trans hs.rel (grow_finalise hs.toCountSpec0 P x (okFinalise_of_forall noCond x)))
    (fun x e rest g _ _ => g.trans hs.rel
      (grow_execEv_popped hs.toCountSpec0 P e rest x (okExecEv_of_forall noCond e _) (hs.exec e _)))
    (Grow.refl hs.rel w)

/-- the unconditional case, for the worlds of `ReachableT` (exceptions escaping from callbacks included) -/
theorem reachableT_count (hs : CountSpec σ cfg R pa px po NoCond) {P : NodeId → Proto S σ} {w : World S σ}
    (h : ReachableT cfg P w) : R (mA pa px w) (mT po w) := by
  suffices g : Grow R pa px po (init cfg P) w from count_of_grow hs.toCountSpec0 g
  induction h with
  | init => exact Grow.refl hs.rel _
  | step _ ih => exact ih.trans hs.rel (grow_step hs P _ (okStep_of_forall noCond _))
  | ext n p _ ih => exact ih.trans hs.rel (grow_runProg hs.toCountSpec0 n p _ (okProg_of_forall noCond n p _))
  | raised _ ih => exact ih.trans hs.rel (grow_stepRaised hs P _)

end chain

theorem evInc_request_only (po : Obs S → Bool) (h : ∀ n cb t, po (.callback n cb t) = false) (t : Int)
    (e : Ev (EvKind S)) (pend : Bool) : evInc po t e pend = 0 := by
  obtain ⟨ts, seq, kind⟩ := e
  cases kind <;> simp [evInc, h]

/-- the medium creates delivery events only -/
theorem medium_countP (cfg : Config S) (p : Ev (EvKind S) → Bool)
    (hp : ∀ ts seq dst src msg, p ⟨ts, seq, .deliver dst src msg⟩ = false) :
    Medium (σ := σ) cfg (fun w w' => w'.raccepted.countP p = w.raccepted.countP p) where
  refl _ := rfl
  trans h1 h2 := h2.trans h1
  deliver _ _ _ _ := by rw [sched_raccepted, countP_cons_bit, hp]; rfl
  draw _ _ := rfl

/-- a skipped request (refused, or its handler absent) is not a counted one, `po` counting only
    accepted requests that their handler serves -/
theorem bit_skip (cfg : Config S) {po : Obs S → Bool} {m : NodeId} {r : Request S} {ok : Bool}
    (hskip : ok = true → handled cfg r = false)
    (hpo : po (.request m r ok) = true → ok = true ∧ handled cfg r = true) : bit (po (.request m r ok)) = 0 := by
  cases h : po (.request m r ok) with
  | false => rfl
  | true =>
    obtain ⟨h1, h2⟩ := hpo h
    rw [hskip h1] at h2
    cases h2

/-- callbacks against executed events, with any additive relation: everything but the balance of one event -/
theorem spec0_callback (σ : Type) (cfg : Config S) {R : Nat → Nat → Prop} (hR : AddRel R)
    (px : Ev (EvKind S) → Bool) (po : Obs S → Bool) (hreq : ∀ n r ok, po (.request n r ok) = false)
    (hlife : (∀ h, po (.handlerInit h) = false) ∧ (∀ h i t, po (.afterStep h i t) = false) ∧
      (∀ h, po (.handlerFinal h) = false) ∧ (∀ n t, po (.callback n .initialize t) = false) ∧
      (∀ n t, po (.callback n .finish t) = false)) :
    CountSpec0 σ cfg R (fun _ => false) px po NoCond :=
  ⟨hR, fun _ _ _ _ => ⟨0, by simp, by rw [hreq]; exact hR.zero⟩, fun _ _ => ⟨rfl, fun _ _ => rfl⟩, hlife⟩

end Sim
