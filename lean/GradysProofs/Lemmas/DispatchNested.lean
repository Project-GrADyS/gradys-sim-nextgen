import GradysProofs.Lemmas.Dispatch
/-
  Everything about the ORDER of a call of `dispatchN` is inherited from the generic `walk` lemmas: by
  definition `dispatchN beh (fuel + 1) s p k` is again a `walk` (of `invokeN`, whose nested calls are
  `dispatchN beh fuel`) over the chain `s.d.reg.chain p k`, read when that call began.  What is new: every
  predicate stable under the primitive actions of a callee (`StableAt`) survives whatever the nested calls
  do (induction on the nesting bound); and `runNOps_lift`, the step by which `C15_nested_conservative`
  shows the extension conservative over the first model.
-/

namespace Disp

section
variable {P : DState → Prop} {p : Nat} (hP : StableAt P p)
include hP

theorem StableAt.runNOps (nested : NState → Kind → NState) (hn : ∀ s k, P s.d → P (nested s k).d) (ops : List NOp)
    {s : NState} (hs : P s.d) : P (runNOps nested p s ops).d := by
  induction ops generalizing s with
  | nil => exact hs
  | cons o os ih =>
    cases o with
    | req o => exact ih (hP.rop _ o hs)
    | create => exact ih (hP.create _ hs)
    | dispatch k => exact ih (hn _ k hs)

theorem StableAt.dispatchN (beh : NBeh) (fuel : Nat) (k : Kind) {s : NState} (hs : P s.d) :
    P (dispatchN beh fuel s p k).1.d := by
  induction fuel generalizing s k with
  | zero => exact hs
  | succ fuel ih =>
    -- by definition `(invokeN beh nested p k e s).1.d` is `(runNOps nested p ⟨s.d.bump c, _⟩ ops).d`
    exact walk_rel (fun (s : NState) _ => P s.d)
      (fun e s _ hs => hP.runNOps _ (fun _ k => ih k) _ (hP.bump _ _ hs)) [] hs

end

theorem StableAt.stepN {P : DState → Prop} {s : DState} {op : Op} (hP : StableAt P op.inst)
    (beh : NBeh) (fuel : Nat) (hs : P s) : P (stepN beh fuel s op).1 := by
  cases op with
  | create p => exact hP.create s hs
  | register p k h => exact hP.rop s (.reg k h) hs
  | unregister p k h => exact hP.rop s (.unreg k h) hs
  | dispatch p k => exact hP.dispatchN beh fuel k hs

theorem runN_inv {P : DState → Prop} (beh : NBeh) (fuel : Nat) {ops : List Op}
    (hP : ∀ op ∈ ops, StableAt P op.inst) {s : DState} (hs : P s) : P (runN beh fuel s ops).1 := by
  induction ops generalizing s with
  | nil => exact hs
  | cons op ops ih =>
    exact ih (fun o ho => hP o (List.mem_cons_of_mem _ ho)) ((hP op List.mem_cons_self).stepN beh fuel hs)

theorem dispatchN_prefix (beh : NBeh) (fuel : Nat) (s : NState) (p : Nat) (k : Kind) :
    (dispatchN beh fuel s p k).2.map (·.entry) <+: s.d.reg.chain p k := by
  cases fuel with
  | zero => exact List.nil_prefix
  | succ fuel => exact walk_prefix

theorem runNOps_lift (nested : NState → Kind → NState) (p : Nat) (ops : List ROp) (s : NState) :
    (runNOps nested p s (ops.map NOp.req)).d = (s.d.applyROps p ops).1 := by
  induction ops generalizing s with
  | nil => rfl
  | cons o os ih =>
    simp only [List.map_cons, runNOps, DState.applyROps]
    rw [ih]

end Disp
