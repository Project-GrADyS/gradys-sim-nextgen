import GradysModel.Assertion
/-
  Closed forms for the assertion handler's bookkeeping and the characterisation of a whole run
  (GradysModel/Assertion.lean).
-/

namespace Assertion

/-- the predicate was true after some executed event among iterations 0 … it-1 -/
def everTrue (p : Nat → Bool) (it : Nat) : Bool := (List.range it).any p

theorem everTrue_zero (p : Nat → Bool) : everTrue p 0 = false := rfl

theorem everTrue_succ (p : Nat → Bool) (it : Nat) : everTrue p (it + 1) = (everTrue p it || p it) := by
  simp [everTrue, List.range_succ, List.any_append]

theorem everTrue_eq_true (p : Nat → Bool) (it : Nat) : everTrue p it = true ↔ ∃ j, j < it ∧ p j = true := by
  simp [everTrue]

theorem everTrue_eq_false (p : Nat → Bool) (it : Nat) : everTrue p it = false ↔ ∀ j, j < it → p j = false := by
  simp [everTrue]

/-! ### what the handler's bookkeeping amounts to

  Each test case is in a state that is a function of the iteration count alone (`stateAfter`), its hook
  raises exactly at the iterations `violatedAt` names, and its `finalize` raises exactly when `neverMet`. -/

/-- an always-assertion is violated after the event of iteration `i` -/
def Spec.violatedAt (ns : Nodes) : Spec → Nat → Bool
  | .alwaysProto T pred, i => !(List.range ns.n).all (fun node => !(ns.isA node T) || pred i node)
  | .alwaysSim pred, i => !pred i
  | _, _ => false

/-- an eventually-assertion fails at the end of a run of `N` events; with the pinned bookkeeping the
    protocol-scoped one cannot fail before the first event -/
def Spec.neverMet (ns : Nodes) (eager : Bool) : Spec → Nat → Bool
  | .eventuallySim pred, N => !everTrue pred N
  | .eventuallyProto T pred, N =>
    (eager || decide (0 < N)) &&
      !(List.range ns.n).all (fun node => !(ns.isA node T) || everTrue (fun j => pred j node) N)
  | _, _ => false

/-- the dictionary of a protocol-scoped eventually-assertion after `it` hooks: no entries until the nodes
    of type `T` have theirs (`reg`), then whether the node's predicate was true after some event so far -/
def dictAfter (ns : Nodes) (T : PType) (pred : Nat → NodeId → Bool) (reg : Bool) (it : Nat) :
    NodeId → Option Bool :=
  fun node =>
    if reg = true ∧ node < ns.n ∧ ns.isA node T = true then some (everTrue (fun j => pred j node) it) else none

/-- the state of a test case after the hooks of iterations 0 … it-1 all passed; the dictionary has its
    entries (`reg`) from registration (repaired: `eager`) or from the first hook on (pinned: `0 < it`) -/
def stateAfter (ns : Nodes) (eager : Bool) : Spec → Nat → TState
  | .alwaysProto _ _, _ => .stateless
  | .alwaysSim _, _ => .stateless
  | .eventuallySim pred, it => .flag (everTrue pred it)
  | .eventuallyProto T pred, it => .perNode (dictAfter ns T pred (eager || decide (0 < it)) it)

variable (ns : Nodes) (eager : Bool)

/-- a loop over the nodes 0 … n-1 in which each round rewrites only its own node's entry -/
theorem foldl_range_pointwise (c : NodeId → Bool) (g : NodeId → Option Bool → Option Bool) (n : Nat)
    (d : NodeId → Option Bool) :
    (List.range n).foldl (fun d node => if c node then Sim.upd d node (g node (d node)) else d) d =
      fun m => if m < n ∧ c m = true then g m (d m) else d m := by
  induction n with
  | zero => funext m; simp
  | succ n ih =>
    -- the last round finds node `n`'s entry untouched and leaves the others as they are
    rw [List.range_succ, List.foldl_append, ih]
    funext m
    by_cases hm : m = n
    · subst hm; by_cases hc : c m <;> simp [hc, Sim.upd]
    · have hlt : m < n + 1 ↔ m < n :=
        ⟨fun h => Nat.lt_of_le_of_ne (Nat.le_of_lt_succ h) hm, Nat.lt_succ_of_lt⟩
      by_cases hc : c n <;> simp [hc, Sim.upd, hm, hlt]

theorem registerAll_eq (T : PType) (d : NodeId → Option Bool) :
    registerAll ns T d = fun m => if m < ns.n ∧ (ns.isA m T) = true then some false else d m :=
  foldl_range_pointwise (fun node => ns.isA node T) (fun _ _ => some false) ns.n d

/-- what `test_iteration` does to one entry: an absent entry and a `False` entry are treated alike, the
    new entry says "was true before, or is true now" -/
theorem note_eq (p : Bool) (x : Option Bool) :
    (if p then some true else if x.isNone then some false else x) = some (x.getD false || p) := by
  cases x <;> cases p <;> simp

theorem noteAll_eq (T : PType) (pred : NodeId → Bool) (d : NodeId → Option Bool) :
    noteAll ns T pred d =
      fun m => if m < ns.n ∧ (ns.isA m T) = true then some ((d m).getD false || pred m) else d m := by
  simp only [noteAll, note_eq]
  -- `noteAll` spells out the `fun m => if m = node then … else d m` that `Sim.upd d node …` unfolds to
  exact foldl_range_pointwise (fun node => ns.isA node T) (fun node x => some (x.getD false || pred node))
    ns.n d

/-- one hook on the closed form.  With the pinned bookkeeping the first hook finds no entries and enters
    the nodes itself; it treats an absent entry as `False`, which is what `everTrue … 0` is. -/
theorem noteAll_dictAfter (T : PType) (pred : Nat → NodeId → Bool) (reg : Bool) (it : Nat)
    (h0 : reg = false → it = 0) :
    noteAll ns T (pred it) (dictAfter ns T pred reg it) = dictAfter ns T pred true (it + 1) := by
  funext m
  cases reg with
  | true =>
    simp only [noteAll_eq, dictAfter, everTrue_succ, true_and]
    split <;> rfl
  | false =>
    cases h0 rfl
    simp only [noteAll_eq, dictAfter, everTrue_succ, true_and, Bool.false_eq_true, false_and, if_false]
    rfl

theorem init_eq_stateAfter (s : Spec) : s.init ns eager = stateAfter ns eager s 0 := by
  cases s with
  | eventuallyProto T pred =>
    simp only [Spec.init, stateAfter, registerAll_eq]
    congr 1
    funext m
    cases eager <;> simp [dictAfter, everTrue_zero]
  | _ => rfl

theorem testIteration_stateAfter (s : Spec) (it : Nat) :
    testIteration ns s (stateAfter ns eager s it) it =
      if s.violatedAt ns it then none else some (stateAfter ns eager s (it + 1)) := by
  cases s with
  | alwaysProto T pred | alwaysSim pred =>
    simp only [testIteration, stateAfter, Spec.violatedAt]
    split <;> simp [*]
  | eventuallySim pred =>
    simp only [testIteration, stateAfter, Spec.violatedAt, everTrue_succ]
    cases pred it <;> simp
  | eventuallyProto T pred =>
    simp only [testIteration, stateAfter, Spec.violatedAt]
    rw [noteAll_dictAfter ns T pred _ it (by simp)]
    simp

theorem finalize_stateAfter (s : Spec) (N : Nat) :
    finalize ns s (stateAfter ns eager s N) = !s.neverMet ns eager N := by
  cases s with
  | alwaysProto T pred | alwaysSim pred => rfl
  | eventuallySim pred => simp [finalize, stateAfter, Spec.neverMet]
  | eventuallyProto T pred =>
    simp only [finalize, stateAfter, Spec.neverMet]
    cases eager || decide (0 < N)
    · simp [dictAfter]
    · -- an entry other than `False`: not of the type, or true at some time
      rw [Bool.eq_iff_iff]
      simp only [Bool.true_and, Bool.not_not, List.all_eq_true, List.mem_range]
      refine forall_congr' fun node => forall_congr' fun hn => ?_
      cases hT : ns.isA node T <;> simp [dictAfter, hn, hT]

/-! The handler holds one such state per assertion (`statesAt`); its hook raises at iteration `i` iff some
  assertion is violated there (`viol`), its finalisation iff some assertion was never met (`endFail`). -/

def viol (ns : Nodes) (specs : List Spec) (i : Nat) : Bool := specs.any (fun s => s.violatedAt ns i)

def endFail (ns : Nodes) (eager : Bool) (specs : List Spec) (N : Nat) : Bool :=
  specs.any (fun s => s.neverMet ns eager N)

def statesAt (ns : Nodes) (eager : Bool) (specs : List Spec) (it : Nat) : List (Spec × TState) :=
  specs.map (fun s => (s, stateAfter ns eager s it))

theorem afterStep_statesAt (specs : List Spec) (it : Nat) :
    afterStep ns it (statesAt ns eager specs it) =
      if viol ns specs it then none else some (statesAt ns eager specs (it + 1)) := by
  induction specs with
  | nil => rfl
  | cons s rest ih =>
    simp only [statesAt, List.map_cons, afterStep, viol, List.any_cons] at ih ⊢
    rw [testIteration_stateAfter, ih]
    by_cases hv : s.violatedAt ns it = true
    · simp [hv]
    · by_cases hr : (rest.any fun s => s.violatedAt ns it) = true <;> simp [hv, hr]

theorem finalizeAll_statesAt (specs : List Spec) (N : Nat) :
    finalizeAll ns (statesAt ns eager specs N) = !endFail ns eager specs N := by
  simp [finalizeAll, statesAt, endFail, List.all_map, Function.comp_def, finalize_stateAfter,
    List.not_any_eq_all_not]

theorem runLoop_statesAt (specs : List Spec) (r it : Nat) :
    runLoop ns r it (statesAt ns eager specs it) =
      match (List.range' it r).find? (viol ns specs) with
      | some i => ⟨i + 1, .failedAfter i⟩
      | none => ⟨it + r, if endFail ns eager specs (it + r) then .failedAtEnd else .passed⟩ := by
  induction r generalizing it with
  | zero =>
    simp only [runLoop, finalizeAll_statesAt, List.range'_zero, List.find?_nil, Nat.add_zero]
    cases endFail ns eager specs it <;> rfl
  | succ r ih =>
    rw [runLoop, afterStep_statesAt, List.range'_succ, List.find?_cons]
    cases viol ns specs it
    · simp only [Bool.false_eq_true, if_false, ih, Nat.add_assoc, Nat.add_comm 1 r]
    · rfl

theorem run_eq (specs : List Spec) (N : Nat) :
    run ns eager specs N =
      match (List.range N).find? (viol ns specs) with
      | some i => ⟨i + 1, .failedAfter i⟩
      | none => ⟨N, if endFail ns eager specs N then .failedAtEnd else .passed⟩ := by
  have h := runLoop_statesAt ns eager specs N 0
  simp only [Nat.zero_add, ← List.range_eq_range'] at h
  rw [← h, run, statesAt]
  congr 1
  exact List.map_congr_left fun s _ => by rw [init_eq_stateAfter]

theorem run_failedAfter_iff (specs : List Spec) (N i : Nat) :
    (run ns eager specs N).verdict = .failedAfter i ↔ (List.range N).find? (viol ns specs) = some i := by
  rw [run_eq]
  split
  · simp [*]
  · split <;> simp [*]

theorem run_failedAtEnd_iff (specs : List Spec) (N : Nat) :
    (run ns eager specs N).verdict = .failedAtEnd ↔
      (List.range N).find? (viol ns specs) = none ∧ endFail ns eager specs N = true := by
  rw [run_eq]
  split
  · simp [*]
  · split <;> simp [*]

theorem run_executed (specs : List Spec) (N : Nat) :
    (run ns eager specs N).executed =
      match (List.range N).find? (viol ns specs) with
      | some i => i + 1
      | none => N := by
  rw [run_eq]
  split <;> simp [*]

end Assertion
