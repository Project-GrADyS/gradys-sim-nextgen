import GradysProofs.Lemmas.SimInv
/-
  Runs event by event.  `evSteps cfg P k (start0 cfg P)` is the world after the first `k` events, with no
  termination test; `RunShape` says how `n` calls of `step_simulation` follow it.  A run without bounds
  executes the first `n` events, the bounded run of the same scenario the first `k ≤ n` of the same events
  (only `isDone` reads the bounds), which is C04's prefix property.
-/
set_option linter.unusedSectionVars false

namespace Sim
variable {S σ : Type} [Scalar S] (cfg : Config S) (P : NodeId → Proto S σ)

/-- pop and execute the next event, if any: `step_simulation` without the termination tests -/
def evStep (cfg : Config S) (P : NodeId → Proto S σ) (w : World S σ) : World S σ :=
  match w.loop.queue with
  | [] => w
  | e :: rest => execStep cfg P e rest w

def evSteps (cfg : Config S) (P : NodeId → Proto S σ) : Nat → World S σ → World S σ
  | 0, w => w
  | k + 1, w => evStep cfg P (evSteps cfg P k w)

/-- the world after `build()` and `_initialize_simulation()` -/
def start0 (cfg : Config S) (P : NodeId → Proto S σ) : World S σ := initialise cfg P (init cfg P)

theorem evStep_nil {w : World S σ} (hq : w.loop.queue = []) : evStep cfg P w = w := by
  unfold evStep; rw [hq]

theorem evStep_cons {w : World S σ} {e : Ev (EvKind S)} {rest : List (Ev (EvKind S))}
    (hq : w.loop.queue = e :: rest) :
    evStep cfg P w = execStep cfg P e rest w := by
  unfold evStep; rw [hq]

theorem evSteps_succ (k : Nat) (w : World S σ) :
    evSteps cfg P (k + 1) w = evStep cfg P (evSteps cfg P k w) := rfl

theorem evSteps_induction {cfg : Config S} {P : NodeId → Proto S σ} {I : World S σ → Prop} {w : World S σ}
    (h0 : I w) (hs : ∀ w e rest, I w → w.loop.queue = e :: rest → I (execStep cfg P e rest w)) (k : Nat) :
    I (evSteps cfg P k w) := by
  induction k with
  | zero => exact h0
  | succ k ih =>
    rw [evSteps_succ]
    cases hq : (evSteps cfg P k w).loop.queue with
    | nil => rw [evStep_nil cfg P hq]; exact ih
    | cons e rest => rw [evStep_cons cfg P hq]; exact hs _ e rest ih hq

theorem evSteps_inv (hdt : 0 ≤ cfg.dt) (k : Nat) {w : World S σ} (h : WInv w) :
    WInv (evSteps cfg P k w) :=
  evSteps_induction h (fun _ e _ h hq => (WInv.lifecycle cfg).hooks e.ts _ (h.execEv_popped hdt P hq)) k

theorem evSteps_stuck {w : World S σ} {k n : Nat} (hq : (evSteps cfg P k w).loop.queue = []) (hk : k ≤ n) :
    evSteps cfg P n w = evSteps cfg P k w := by
  induction hk with
  | refl => rfl
  | step _ ih => rw [evSteps_succ, ih, evStep_nil cfg P hq]

theorem evSteps_mono (w : World S σ) {k' k : Nat} (hk : k' ≤ k) :
    (evSteps cfg P k' w).rexecuted <:+ (evSteps cfg P k w).rexecuted ∧
    (evSteps cfg P k' w).rtrace <:+ (evSteps cfg P k w).rtrace := by
  induction hk with
  | refl => exact ⟨List.suffix_refl _, List.suffix_refl _⟩
  | @step k _ ih =>
    rw [evSteps_succ]
    cases hq : (evSteps cfg P k w).loop.queue with
    | nil => rw [evStep_nil cfg P hq]; exact ih
    | cons e rest =>
      rw [evStep_cons cfg P hq]
      have h := execStep_ext cfg P e rest (evSteps cfg P k w)
      obtain ⟨l, hl, _⟩ := h.trace_ext
      exact ⟨ih.1.trans ⟨[e], h.rexecuted.symm⟩, ih.2.trans ⟨l, hl.symm⟩⟩

theorem start0_flags : (start0 cfg P).initialized = true ∧ (start0 cfg P).finalized = false :=
  have f := initialise_flags cfg P (init cfg P)
  ⟨f.initialized, f.finalized.trans (init_flags cfg P).2⟩

theorem evSteps_flags (k : Nat) :
    (evSteps cfg P k (start0 cfg P)).initialized = true ∧ (evSteps cfg P k (start0 cfg P)).finalized = false :=
  evSteps_induction (I := fun w => w.initialized = true ∧ w.finalized = false) (start0_flags cfg P)
    (fun w e rest h _ =>
      have f := execStep_flags cfg P e rest w
      ⟨f.initialized.trans h.1, f.finalized.trans h.2⟩) k

theorem start0_inv (hdt : 0 ≤ cfg.dt) :
    WInv (start0 cfg P) := (WInv.lifecycle cfg).initialise P _ (init_inv cfg P hdt)

theorem start0_ext : Ext cfg (init cfg P) (start0 cfg P) := (Ext.lifecycle cfg).initialise P _

theorem step_evStep {w : World S σ} (hf : w.finalized = false) :
    (step cfg P w).1 =
      if isDone cfg (prep cfg P w) then finalise cfg P (prep cfg P w)
      else if isDone cfg (evStep cfg P (prep cfg P w)) then finalise cfg P (evStep cfg P (prep cfg P w))
      else evStep cfg P (prep cfg P w) := by
  rcases step_cases cfg P w with ⟨h, _⟩ | ⟨_, hd, hs⟩ | ⟨e, rest, _, hd, hq, hs⟩
  · rw [hf] at h; cases h
  · rw [hs, if_pos hd]
  · rw [hs, evStep_cons cfg P hq, hd]
    split <;> rfl

/-- `is_simulation_done` fails after each of the first 0, …, `k - 1` events: the run does not stop before its `k`-th -/
def Live (k : Nat) : Prop :=
  ∀ j, j < k → isDone cfg (evSteps cfg P j (start0 cfg P)) = false

theorem Live.succ {cfg : Config S} {P : NodeId → Proto S σ} {k : Nat} (h : Live cfg P k)
    (hk : isDone cfg (evSteps cfg P k (start0 cfg P)) = false) : Live cfg P (k + 1) := by
  intro j hj
  rcases Nat.lt_succ_iff_lt_or_eq.mp hj with hj | rfl
  · exact h j hj
  · exact hk

/-- the three shapes of the world after `n` calls of `step_simulation` on a freshly built simulation:
    not yet initialised; `n` events executed and still going; finalised after exactly `k ≤ n` events,
    `k` being the first count at which `is_simulation_done` holds -/
def RunShape (n : Nat) (w : World S σ) : Prop :=
  (n = 0 ∧ w = init cfg P) ∨
  (Live cfg P (n + 1) ∧ w = evSteps cfg P n (start0 cfg P)) ∨
  (∃ k, k ≤ n ∧ Live cfg P k ∧ isDone cfg (evSteps cfg P k (start0 cfg P)) = true ∧
    w = finalise cfg P (evSteps cfg P k (start0 cfg P)))

theorem runShape_step {n : Nat} {w : World S σ} (h : RunShape cfg P n w) :
    RunShape cfg P (n + 1) (step cfg P w).1 := by
  have going : ∀ k w, Live cfg P k → w.finalized = false → prep cfg P w = evSteps cfg P k (start0 cfg P) →
      RunShape cfg P (k + 1) (step cfg P w).1 := by
    intro k w hl hf hp
    rw [step_evStep cfg P hf, hp, ← evSteps_succ]
    cases h0 : isDone cfg (evSteps cfg P k (start0 cfg P)) with
    | true => exact Or.inr (Or.inr ⟨k, Nat.le_succ k, hl, h0, rfl⟩)
    | false =>
      cases h1 : isDone cfg (evSteps cfg P (k + 1) (start0 cfg P)) with
      | true => exact Or.inr (Or.inr ⟨k + 1, Nat.le_refl _, hl.succ h0, h1, rfl⟩)
      | false => exact Or.inr (Or.inl ⟨(hl.succ h0).succ h1, rfl⟩)
  rcases h with ⟨rfl, rfl⟩ | ⟨hl, rfl⟩ | ⟨k, hk, hl, hd, rfl⟩
  · exact going 0 _ (fun _ hj => absurd hj (Nat.not_lt_zero _)) (init_flags cfg P).2
      (prep_of_not_initialized (init_flags cfg P).1)
  · have hfl := evSteps_flags cfg P n
    exact going n _ (fun j hj => hl j (Nat.lt_succ_of_lt hj)) hfl.2 (prep_of_initialized hfl.1)
  · exact Or.inr (Or.inr ⟨k, Nat.le_succ_of_le hk, hl, hd,
      by rw [step_finalized cfg P (finalise_flags cfg P _).finalized]⟩)

theorem runShape_steps (n : Nat) : RunShape cfg P n (steps cfg P n (init cfg P)) := by
  induction n with
  | zero => exact Or.inl ⟨rfl, rfl⟩
  | succ n ih =>
    rw [steps_add]
    exact runShape_step cfg P ih

theorem steps_eq_evSteps_live (k : Nat) (hl : Live cfg P (k + 2)) :
    steps cfg P (k + 1) (init cfg P) = evSteps cfg P (k + 1) (start0 cfg P) := by
  rcases runShape_steps cfg P (k + 1) with ⟨h, _⟩ | ⟨_, h⟩ | ⟨j, hj, _, hd, _⟩
  · cases h
  · exact h
  · rw [hl j (Nat.lt_succ_of_le hj)] at hd; cases hd

theorem completed_run (n : Nat) (hfin : (steps cfg P n (init cfg P)).finalized = true) :
    ∃ k, Live cfg P k ∧ isDone cfg (evSteps cfg P k (start0 cfg P)) = true ∧
      steps cfg P n (init cfg P) = finalise cfg P (evSteps cfg P k (start0 cfg P)) := by
  rcases runShape_steps cfg P n with ⟨_, h⟩ | ⟨_, h⟩ | ⟨k, _, h⟩
  · rw [h, (init_flags cfg P).2] at hfin; cases hfin
  · rw [h, (evSteps_flags cfg P n).2] at hfin; cases hfin
  · exact ⟨k, h⟩

theorem steps_rexecuted (n : Nat) :
    ∃ k, k ≤ n ∧ (steps cfg P n (init cfg P)).rexecuted = (evSteps cfg P k (start0 cfg P)).rexecuted := by
  rcases runShape_steps cfg P n with ⟨rfl, h⟩ | ⟨_, h⟩ | ⟨k, hk, _, _, h⟩
  · exact ⟨0, Nat.le_refl 0, by rw [h]; exact (start0_ext cfg P).rexecuted.symm⟩
  · exact ⟨n, Nat.le_refl n, by rw [h]⟩
  · exact ⟨k, hk, by rw [h]; exact ((Ext.lifecycle cfg).finalise P _).rexecuted⟩

def unbounded (cfg : Config S) : Config S := { cfg with duration := none, maxIter := none }

theorem queue_nil_of_isDone (hd : cfg.duration = none) (hm : cfg.maxIter = none) {w : World S σ}
    (h : isDone cfg w = true) : w.loop.queue = [] := by
  cases hq : w.loop.queue with
  | nil => rfl
  | cons e rest => rw [isDone_cons cfg hq, hd, hm] at h; cases h

/-! Only `isDone` reads the bounds: `execReq`, `mobTick` and the record updates around the callbacks mention
    no field in which `unbounded cfg` differs from `cfg`, so for them the equation holds by `rfl` on the
    definition (after `cases r` for `execReq`, which is defined by matching on the request). -/

theorem runProg_unbounded (n : NodeId) (p : Prog S σ) (w : World S σ) :
    runProg (unbounded cfg) n p w = runProg cfg n p w := by
  induction p generalizing w with
  | done s => rfl
  | req r k ih =>
    have : execReq (unbounded cfg) n r w = execReq cfg n r w := by cases r <;> rfl
    rw [runProg_req, runProg_req, this, ih]

theorem callback_unbounded (n : NodeId) (cb : Callback S)
    (w : World S σ) : callback (unbounded cfg) P n cb w = callback cfg P n cb w := by
  rw [callback_eq, callback_eq, runProg_unbounded]
  rfl

theorem callbackAll_unbounded (cb : Callback S)
    (ns : List NodeId) (w : World S σ) :
    callbackAll (unbounded cfg) P cb ns w = callbackAll cfg P cb ns w := by
  induction ns generalizing w with
  | nil => rfl
  | cons n ns ih => rw [callbackAll_cons, callbackAll_cons, callback_unbounded, ih]

theorem execEv_unbounded (e : Ev (EvKind S)) (w : World S σ) :
    execEv (unbounded cfg) P e w = execEv cfg P e w := by
  -- `execEv` reads the configuration only inside `callback` and `mobTick`, the arms of its match
  unfold execEv
  simp only [callback_unbounded]
  rfl

theorem execStep_unbounded (e : Ev (EvKind S))
    (rest : List (Ev (EvKind S))) (w : World S σ) :
    execStep (unbounded cfg) P e rest w = execStep cfg P e rest w := by
  rw [execStep_eq, execStep_eq, execEv_unbounded]
  rfl

theorem evSteps_unbounded (k : Nat) (w : World S σ) :
    evSteps (unbounded cfg) P k w = evSteps cfg P k w := by
  induction k with
  | zero => rfl
  | succ k ih =>
    rw [evSteps_succ, evSteps_succ, ih]
    cases hq : (evSteps cfg P k w).loop.queue with
    | nil => rw [evStep_nil _ P hq, evStep_nil _ P hq]
    | cons e rest => rw [evStep_cons _ P hq, evStep_cons _ P hq, execStep_unbounded]

theorem start0_unbounded : start0 (unbounded cfg) P = start0 cfg P := by
  unfold start0
  rw [initialise_eq, initialise_eq, callbackAll_unbounded]
  rfl

/-- without bounds, `n` calls execute the first `n` events (all there are, if fewer) -/
theorem steps_unbounded_rexecuted (n : Nat) :
    (steps (unbounded cfg) P n (init (unbounded cfg) P)).rexecuted =
      (evSteps cfg P n (start0 cfg P)).rexecuted := by
  rcases runShape_steps (unbounded cfg) P n with ⟨rfl, h⟩ | ⟨_, h⟩ | ⟨k, hk, _, hd, h⟩
  · rw [h]; exact (start0_ext cfg P).rexecuted.symm
  · rw [h, evSteps_unbounded, start0_unbounded]
  · -- the run is over with nothing left in the queue: the event-level run is stuck since `k`
    rw [h, ((Ext.lifecycle (unbounded cfg)).finalise P _).rexecuted, evSteps_unbounded, start0_unbounded]
    rw [evSteps_unbounded, start0_unbounded] at hd
    rw [evSteps_stuck cfg P (queue_nil_of_isDone (unbounded cfg) rfl rfl hd) hk]

end Sim
