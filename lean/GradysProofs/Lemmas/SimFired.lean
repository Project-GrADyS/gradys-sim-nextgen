import GradysProofs.Lemmas.SimCountSpecs
import GradysProofs.Lemmas.SimTimer
/-
  As long as no `cancel_timer(name)` by `n` was accepted, every queued timer event of `(n, name)` is still
  pending (`QP`, carried by `QExt`), hence each executed one made its callback (`FExt`, `FInv`,
  `firedT_eq_execdT`).
-/
set_option linter.unusedSectionVars false

namespace Sim
variable {S σ : Type} [Scalar S]

def QP (n : NodeId) (name : String) (w : World S σ) : Prop :=
  ∀ e ∈ w.loop.queue, ∀ id, e.kind = .timerFire n name id → (n, name, id) ∈ w.pending

def noCancel (n : NodeId) (name : String) (w : World S σ) : Prop := w.rtrace.countP (isCancelAcc n name) = 0

section noCancel
variable {n : NodeId} {name : String}

theorem noCancel_iff {w : World S σ} : noCancel n name w ↔ accCancelT w n name = 0 := by
  rw [accCancelT, trace_countP]; rfl

theorem noCancel_congr {w w' : World S σ} (h : w'.rtrace = w.rtrace) : noCancel n name w' ↔ noCancel n name w := by
  unfold noCancel; rw [h]

theorem noCancel_log (o : Obs S) (w : World S σ) :
    noCancel n name (log o w) ↔ noCancel n name w ∧ isCancelAcc n name o = false := by
  -- `noCancel n name w` is `mT (isCancelAcc n name) w = 0`
  show mT _ (log o w) = 0 ↔ mT _ w = 0 ∧ _
  rw [mT_log]
  cases isCancelAcc n name o <;> simp

end noCancel

/-- from `w` to `w'` an accepted cancel stays in the trace, and without one `QP` is kept -/
structure QExt (n : NodeId) (name : String) (w w' : World S σ) : Prop where
  back : noCancel n name w' → noCancel n name w
  keep : noCancel n name w' → QP n name w → QP n name w'

section qext
variable {n : NodeId} {name : String}

theorem QExt.trans {a b c : World S σ} (h1 : QExt n name a b) (h2 : QExt n name b c) : QExt n name a c :=
  ⟨fun h => h1.back (h2.back h), fun h q => h2.keep h (h1.keep (h2.back h) q)⟩

theorem QExt.of_eq {w w' : World S σ} (h1 : w'.rtrace = w.rtrace) (h2 : w'.loop.queue = w.loop.queue)
    (h3 : w'.pending = w.pending) : QExt n name w w' :=
  ⟨(noCancel_congr h1).mp, fun _ q e he id hid => h3 ▸ q e (h2 ▸ he) id hid⟩

theorem qext_log (o : Obs S) (w : World S σ) : QExt n name w (log o w) :=
  ⟨fun h => ((noCancel_log o w).mp h).1, fun _ q => q⟩

theorem qext_sched (ts : Int) (k : EvKind S) (hk : ¬ k.isTimer) (w : World S σ) :
    QExt n name w (sched ts k w) :=
  ⟨id, fun _ q e he id hid => by
    rcases mem_insertEv.mp he with rfl | he
    · exact absurd (by rw [show k = _ from hid]; trivial) hk
    · exact q e he id hid⟩

theorem QExt.medium (cfg : Config S) : Medium (σ := σ) cfg (QExt n name) where
  refl _ := .of_eq rfl rfl rfl
  trans := QExt.trans
  deliver _ _ _ _ := qext_sched _ _ id _
  draw _ _ := .of_eq rfl rfl rfl

/-- One request together with its observation: only an accepted `cancel_timer(name)` by `n` drops
    pending entries of `(n, name)`, and then the observation says so. -/
theorem qext_req (cfg : Config S) (m : NodeId) (r : Request S) (w : World S σ) :
    QExt n name w (log (.request m r (execReq cfg m r w).2) (execReq cfg m r w).1) := by
  refine execReq_cases (motive := fun r x ok => QExt n name w (log (.request m r ok) x)) cfg m w
    (skip := fun _ _ _ => qext_log _ w)
    (setTimer := fun nm at_ _ => QExt.trans (b := arm m nm at_ w) ⟨id, fun _ q e he id hid => ?arm⟩ (qext_log _ _))
    (cancelTimer := fun nm => ⟨fun h => ((noCancel_log _ _).mp h).1, fun h q e he id hid => ?disarm⟩)
    (send := fun mg d _ _ _ => ((QExt.medium cfg).transmit m d.toNat mg w).trans (qext_log _ _))
    (broadcast := fun mg => ((QExt.medium cfg).broadcastTo m mg _ w).trans (qext_log _ _))
    (inert := fun _ tg sp rg _ => QExt.trans (b := { w with target := tg, speed := sp, range := rg })
      (.of_eq rfl rfl rfl) (qext_log _ _)) r
  case arm =>
    refine mem_arm.mpr ?_
    rcases mem_insertEv.mp he with rfl | he
    · cases hid
      exact .inl rfl
    · exact .inr (q e he id hid)
  case disarm =>
    -- the cancel just logged is not one of `(n, name)`, so the entry is not among those it removes
    have hno := ((noCancel_log _ _).mp h).2
    refine mem_disarm.mpr ⟨q e he id hid, fun hc => ?_⟩
    simp [isCancelAcc, hc.1.symm, hc.2.symm] at hno

theorem QExt.lifecycle (cfg : Config S) : Lifecycle (σ := σ) cfg (QExt n name) where
  refl _ := .of_eq rfl rfl rfl
  trans := QExt.trans
  req := qext_req cfg
  cb _ _ w := qext_log _ w
  ret _ _ := .of_eq rfl rfl rfl
  hook o w _ := qext_log o w
  flags _ _ _ _ := .of_eq rfl rfl rfl

theorem qext_mobTick (cfg : Config S) (w : World S σ) : QExt n name w (mobTick cfg w) :=
  (QExt.lifecycle cfg).mobTick ((QExt.lifecycle cfg).tickNode (fun _ _ => .of_eq rfl rfl rfl) fun _ _ _ => qext_sched _ _ id _)
    (fun _ => qext_sched _ _ id _) w

/-- popping the head and executing it: the entry a timer event removes is its own, and no other queued
    event shares it -/
theorem qext_execEv_popped (cfg : Config S) (P : NodeId → Proto S σ) (e : Ev (EvKind S))
    (rest : List (Ev (EvKind S))) (w : World S σ) (hw : WInv w) (hp : PInv w) (hq : w.loop.queue = e :: rest) :
    QExt n name w (execEv cfg P e (popped e rest w)) := by
  have hhead := hq ▸ queue_timer_unique hw hp
  have hmem : ∀ x, x ∈ rest → x ∈ w.loop.queue := fun x hx => by rw [hq]; exact List.mem_cons_of_mem _ hx
  have hpop : QExt n name w (popped e rest w) :=
    ⟨id, fun _ q x hx id hid => q x (hmem x hx) id hid⟩
  refine execEv_cases cfg P e _ (fun m nm tid hk _ => ?_) (fun _ _ _ _ _ => hpop)
    (fun dst _ msg _ => hpop.trans ((QExt.lifecycle cfg).callback P dst _ _)) (fun _ => hpop.trans (qext_mobTick cfg _))
    (fun m p _ => hpop.trans ((QExt.lifecycle cfg).callback P m _ _))
  refine QExt.trans (b := { popped e rest w with pending := w.pending.erase (m, nm, tid) })
    ⟨id, fun _ q x hx id' hid => ?_⟩ ((QExt.lifecycle cfg).callback P m _ _)
  show (n, name, id') ∈ w.pending.erase (m, nm, tid)
  refine (List.mem_erase_of_ne ?_).mpr (q x (hmem x hx) id' hid)
  intro hc
  cases hc
  exact (List.pairwise_cons.mp hhead).1 x hx _ _ _ _ hk hid

end qext

abbrev GrowF (n : NodeId) (name : String) (t : Int) (w w' : World S σ) : Prop :=
  Grow (fun a b => a = b) (fun _ => false) (isTimerEv n name t) (isTimerCb n name t) w w'

/-- `QExt`, and if no cancel is logged and the entries were there, one callback per executed event -/
structure FExt (n : NodeId) (name : String) (w w' : World S σ) : Prop where
  q : QExt n name w w'
  g : noCancel n name w' → QP n name w → ∀ t, GrowF n name t w w'

section fext
variable {n : NodeId} {name : String}

theorem fext_execEv_popped (cfg : Config S) (ht : cfg.hasTimer = true) (P : NodeId → Proto S σ)
    (e : Ev (EvKind S)) (rest : List (Ev (EvKind S))) (w : World S σ) (hw : WInv w) (hp : PInv w)
    (hq : w.loop.queue = e :: rest) : FExt n name w (execEv cfg P e (popped e rest w)) := by
  refine ⟨qext_execEv_popped cfg P e rest w hw hp hq, fun _ qp t => ?_⟩
  refine grow_execEv_popped (spec0_firedT σ cfg addRel_eq n name t) P e rest w
    (okExecEv_of_forall noCond _ _) ?_
  rw [ht, if_pos rfl, evInc_timerCb]
  -- a counted event at the head is a timer event of `(n, name)`, hence still pending by `QP`: its callback is made
  cases hc : isTimerEv n name t e with
  | false => split <;> rfl
  | true =>
    obtain ⟨id, hk⟩ := isTimerEv_kind hc
    have hpend : pendOf e (popped e rest w) = true := by
      unfold pendOf; rw [hk]
      exact List.contains_iff_mem.mpr (qp e (hq ▸ List.mem_cons_self) id hk)
    rw [hpend]; rfl

structure FInv (n : NodeId) (name : String) (w : World S σ) : Prop where
  qp : noCancel n name w → QP n name w
  eq : noCancel n name w → ∀ t, w.rtrace.countP (isTimerCb n name t) = w.rexecuted.countP (isTimerEv n name t)

theorem FInv.fext {w w' : World S σ} (h : FInv n name w) (e : FExt n name w w') : FInv n name w' := by
  refine ⟨fun hc => e.q.keep hc (h.qp (e.q.back hc)), fun hc t => ?_⟩
  obtain ⟨da, dt, ha, hT, hr⟩ := e.g hc (h.qp (e.q.back hc)) t
  have h0 := h.eq (e.q.back hc) t
  simp only [mA_right, mT] at ha hT
  omega

/-- where the callbacks are made whether or not a cancel is logged: `QExt` and `GrowF` side by side -/
theorem FInv.of_grow {w w' : World S σ} (h : FInv n name w) (q : QExt n name w w')
    (g : ∀ t, GrowF n name t w w') : FInv n name w' := h.fext ⟨q, fun _ _ => g⟩

theorem FInv.runProg {w : World S σ} (h : FInv n name w) (cfg : Config S) (m : NodeId) (p : Prog S σ) :
    FInv n name (runProg cfg m p w).1 :=
  h.of_grow ((QExt.lifecycle cfg).runProg m p w) fun t =>
    grow_runProg (spec0_firedT σ cfg addRel_eq n name t) m p w (okProg_of_forall noCond m p w)

theorem init_finv (cfg : Config S) (P : NodeId → Proto S σ) : FInv n name (init cfg P) :=
  init_ind ⟨fun _ _ he => (nomatch he), fun _ _ => rfl⟩ fun _ =>
    -- the one queued event is the mobility update
    ⟨fun _ e he id hid => (by obtain rfl := List.mem_singleton.mp he; cases hid), fun _ _ => rfl⟩

theorem initWith_finv (cfg : Config S) (P : NodeId → Proto S σ) (pre : List (NodeId × Prog S σ)) :
    FInv n name (initWith cfg P pre) :=
  initWith_induction (C := fun w => FInv n name w) (init_finv cfg P) (fun m p _ h => h.runProg cfg m p) pre

theorem reachableT_finv {cfg : Config S} (ht : cfg.hasTimer = true) (hdt : 0 ≤ cfg.dt)
    {P : NodeId → Proto S σ} {w : World S σ} (h : ReachableT cfg P w) : FInv n name w := by
  -- `WInv` and `PInv` ride along: executing the head event needs `queue_timer_unique`
  have wp := (WInv.lifecycle (σ := σ) cfg).and (PInv.lifecycle cfg)
  have s0 := fun t => spec0_firedT σ cfg addRel_eq n name t
  exact (ReachableT.induction (I := fun x => (WInv x ∧ PInv x) ∧ FInv n name x)
    ⟨⟨init_inv cfg P hdt, init_pinv cfg P⟩, init_finv cfg P⟩
    (fun m p x h => ⟨wp.runProg m p x h.1, h.2.runProg cfg m p⟩)
    (fun x h => ⟨wp.prep P x h.1,
      h.2.of_grow ((QExt.lifecycle cfg).prep P x) fun t => grow_prep (s0 t) P x (okPrep_of_forall noCond x)⟩)
    (fun x h => ⟨wp.finalise P x h.1,
      h.2.of_grow ((QExt.lifecycle cfg).finalise P x) fun t => grow_finalise (s0 t) P x (okFinalise_of_forall noCond x)⟩)
    (fun x e rest h hq _ => ⟨⟨h.1.1.execEv_popped hdt P hq, h.1.2.execEv_popped P hq⟩,
      h.2.fext (fext_execEv_popped cfg ht P e rest x h.1.1 h.1.2 hq)⟩)
    (fun x e rest _ _ _ h => ⟨wp.hooks e.ts _ h.1,
      h.2.of_grow ((QExt.lifecycle cfg).hooks e.ts _) fun t => grow_hooks (s0 t) e.ts _⟩) h).2

end fext

theorem firedT_eq_execdT {cfg : Config S} (ht : cfg.hasTimer = true) (hdt : 0 ≤ cfg.dt)
    {P : NodeId → Proto S σ} {w : World S σ} (h : ReachableT cfg P w) (n : NodeId) (name : String)
    (hnc : accCancelT w n name = 0) (t : Int) : firedT w n name t = execdT w n name t := by
  rw [firedT, execdT, trace_countP, executed_countP]
  exact (reachableT_finv ht hdt h).eq (noCancel_iff.mpr hnc) t

end Sim
