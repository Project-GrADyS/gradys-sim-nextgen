import GradysProofs.Lemmas.Queue
/-
  Histories of the public `EventLoop` API (schedule / pop / peek / clear / len / now) with ghost
  bookkeeping of what was accepted, popped and dropped; the history invariant.
-/

/-- the loop together with ghost history (all newest first) -/
structure ELG (K : Type) where
  l : EL K
  popped : List (Ev K)
  accepted : List (Ev K)
  dropped : List (Ev K)

namespace ELG
variable {K : Type}

def init : ELG K := ⟨EL.empty, [], [], []⟩

def apply (g : ELG K) (op : ELOp K) : ELG K :=
  match op with
  | .schedule ts k =>
    if ts < g.l.now then g
    else { g with l := (g.l.apply (.schedule ts k)).1, accepted := ⟨ts, g.l.nextSeq, k⟩ :: g.accepted }
  | .pop =>
    match g.l.queue with
    | [] => g
    | e :: _ => { g with l := (g.l.apply .pop).1, popped := e :: g.popped }
  | .clear => { g with l := g.l.clear, dropped := g.l.queue ++ g.dropped }
  | .peek => g
  | .len => g
  | .now => g

def run (g : ELG K) (ops : List (ELOp K)) : ELG K := ops.foldl apply g

theorem apply_schedule (g : ELG K) (ts : Int) (k : K) :
    g.apply (.schedule ts k) =
      if ts < g.l.now then g
      else { g with l := g.l.push ts k, accepted := ⟨ts, g.l.nextSeq, k⟩ :: g.accepted } := by
  simp only [apply]
  split
  · rfl
  · rename_i h; rw [EL.apply_schedule, if_neg h]

theorem apply_pop_nil (g : ELG K) (hq : g.l.queue = []) : g.apply .pop = g := by
  simp only [apply, hq]

theorem apply_pop_cons (g : ELG K) {e : Ev K} {rest : List (Ev K)} (hq : g.l.queue = e :: rest) :
    g.apply .pop = { g with l := { g.l with queue := rest, now := e.ts }, popped := e :: g.popped } := by
  simp only [apply, hq, EL.apply_pop]

theorem apply_l (g : ELG K) (op : ELOp K) : (g.apply op).l = (g.l.apply op).1 := by
  cases op with
  | schedule ts k => rw [apply_schedule, EL.apply_schedule]; split <;> rfl
  | pop =>
    rw [EL.apply_pop]
    cases hq : g.l.queue with
    | nil => rw [apply_pop_nil g hq]
    | cons e rest => rw [apply_pop_cons g hq]
  | peek | clear | len | now => rfl

theorem run_l (g : ELG K) (ops : List (ELOp K)) : (g.run ops).l = (g.l.run ops).1 := by
  induction ops generalizing g with
  | nil => rfl
  | cons op ops ih =>
    show ((g.apply op).run ops).l = ((g.l.apply op).1.run ops).1
    rw [ih, apply_l]

theorem run_init_l (ops : List (ELOp K)) :
    ((EL.empty : EL K).run ops).1 = ((init : ELG K).run ops).l :=
  (run_l init ops).symm

structure Inv (g : ELG K) : Prop where
  sorted : g.l.queue.Pairwise keyLt
  ge_now : ∀ e ∈ g.l.queue, g.l.now ≤ e.ts
  seq_lt : ∀ e ∈ g.l.queue, e.seq < g.l.nextSeq
  perm : (g.popped ++ g.l.queue ++ g.dropped).Perm g.accepted
  popped_lt_queue : ∀ a ∈ g.popped, ∀ b ∈ g.l.queue, keyLt a b
  popped_sorted : g.popped.Pairwise (fun a b => keyLt b a)
  popped_le_now : ∀ a ∈ g.popped, a.ts ≤ g.l.now
  popped_seq_lt : ∀ a ∈ g.popped, a.seq < g.l.nextSeq

theorem init_inv : Inv (init : ELG K) := by
  constructor <;> simp [init, EL.empty]

theorem apply_inv (g : ELG K) (op : ELOp K) (h : Inv g) : Inv (g.apply op) := by
  cases op with
  | schedule ts k =>
    rw [apply_schedule]
    split
    · exact h
    · rename_i hlt
      have hts := Int.not_lt.mp hlt
      exact {
        sorted := insertEv_sorted _ _ h.sorted h.seq_lt
        ge_now := forall_mem_insertEv.mpr ⟨hts, h.ge_now⟩
        seq_lt := forall_mem_insertEv.mpr
          ⟨Nat.lt_succ_self _, fun e he => Nat.lt_succ_of_lt (h.seq_lt e he)⟩
        perm := by
          show (g.popped ++ insertEv _ g.l.queue ++ g.dropped).Perm (_ :: g.accepted)
          have hp := h.perm
          rw [List.append_assoc] at hp ⊢
          exact ((((insertEv_perm _ _).append_right _).append_left _).trans List.perm_middle).trans
            (hp.cons _)
        -- everything popped was due by `now ≤ ts` and was requested earlier
        popped_lt_queue := fun a ha => forall_mem_insertEv.mpr
          ⟨keyLt_of_ts_le_of_seq_lt (Int.le_trans (h.popped_le_now a ha) hts) (h.popped_seq_lt a ha),
            h.popped_lt_queue a ha⟩
        popped_sorted := h.popped_sorted
        popped_le_now := h.popped_le_now
        popped_seq_lt := fun a ha => Nat.lt_succ_of_lt (h.popped_seq_lt a ha) }
  | pop =>
    cases hq : g.l.queue with
    | nil => rw [apply_pop_nil g hq]; exact h
    | cons e rest =>
      obtain ⟨hhead, hrest⟩ := List.pairwise_cons.mp (hq ▸ h.sorted)
      have hmem : ∀ x ∈ rest, x ∈ g.l.queue := fun x hx => hq ▸ List.mem_cons_of_mem _ hx
      have he : e ∈ g.l.queue := hq ▸ List.mem_cons_self
      rw [apply_pop_cons g hq]
      exact {
        sorted := hrest
        ge_now := fun x hx => keyLt_ts_le (hhead x hx)
        seq_lt := fun x hx => h.seq_lt x (hmem x hx)
        perm := by
          show ((e :: g.popped) ++ rest ++ g.dropped).Perm g.accepted
          have hp := h.perm
          rw [hq, List.append_assoc] at hp
          rw [List.append_assoc]
          exact List.perm_middle.symm.trans hp
        popped_lt_queue := List.forall_mem_cons.mpr
          ⟨hhead, fun a ha b hb => h.popped_lt_queue a ha b (hmem b hb)⟩
        popped_sorted := List.pairwise_cons.mpr
          ⟨fun a ha => h.popped_lt_queue a ha e he, h.popped_sorted⟩
        popped_le_now := List.forall_mem_cons.mpr
          ⟨Int.le_refl _, fun a ha => keyLt_ts_le (h.popped_lt_queue a ha e he)⟩
        popped_seq_lt := List.forall_mem_cons.mpr ⟨h.seq_lt e he, h.popped_seq_lt⟩ }
  | clear =>
    exact {
      sorted := List.Pairwise.nil
      ge_now := fun e he => nomatch he
      seq_lt := fun e he => nomatch he
      perm := by
        show (g.popped ++ [] ++ (g.l.queue ++ g.dropped)).Perm g.accepted
        simpa [List.append_assoc] using h.perm
      popped_lt_queue := fun a _ b hb => nomatch hb
      popped_sorted := h.popped_sorted
      popped_le_now := h.popped_le_now
      popped_seq_lt := h.popped_seq_lt }
  | peek | len | now => exact h

theorem run_inv (g : ELG K) (ops : List (ELOp K)) (h : Inv g) : Inv (g.run ops) := by
  induction ops generalizing g with
  | nil => exact h
  | cons op ops ih => exact ih _ (apply_inv g op h)

end ELG
