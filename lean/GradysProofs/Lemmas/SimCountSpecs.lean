import GradysProofs.Lemmas.SimCount
import GradysProofs.Lemmas.SimInv
import GradysProofs.Lemmas.Medium
/-
  The counters of C07 / C08 (`List.countP` of Boolean predicates over the trace, the queue and the ghost lists)
  and the counting facts that relate trace and events, each an instance of the chain of Lemmas/SimCount.lean
  (`spec_*`; `transmit_countP` and `broadcastTo_countP` say what the medium adds), read on the counters in
  `section counters`; created = executed + queued is `WInv.perm` counted (`created_eq`).
-/
set_option linter.unusedSectionVars false

namespace Sim
variable {S σ : Type} [Scalar S]

/-- `handle_timer(name)` called on node `n`, reporting time `t` -/
def isTimerCb (n : NodeId) (name : String) (t : Int) : Obs S → Bool
  | .callback m (.timer nm) t' => decide (m = n ∧ nm = name ∧ t' = t)
  | _ => false

/-- an accepted `set_timer(name, t)` request by node `n` -/
def isSetAcc (n : NodeId) (name : String) (t : Int) : Obs S → Bool
  | .request m (.setTimer nm at_) true => decide (m = n ∧ nm = name ∧ at_ = t)
  | _ => false

/-- an accepted `cancel_timer(name)` request by node `n` -/
def isCancelAcc (n : NodeId) (name : String) : Obs S → Bool
  | .request m (.cancelTimer nm) true => decide (m = n ∧ nm = name)
  | _ => false

/-- a timer event of node `n` and name `name` due at `t` -/
def isTimerEv (n : NodeId) (name : String) (t : Int) (e : Ev (EvKind S)) : Bool :=
  match e.kind with
  | .timerFire m nm _ => decide (m = n ∧ nm = name ∧ e.ts = t)
  | _ => false

/-- `handle_packet(msg)` called on node `dst`, reporting time `t` -/
def isPacketCb (dst : NodeId) (msg : String) (t : Int) : Obs S → Bool
  | .callback m (.packet mg) t' => decide (m = dst ∧ mg = msg ∧ t' = t)
  | _ => false

/-- `handle_packet(msg)` called on node `dst`, any reported time -/
def isPacketCbAny (dst : NodeId) (msg : String) : Obs S → Bool
  | .callback m (.packet mg) _ => decide (m = dst ∧ mg = msg)
  | _ => false

/-- a delivery event for node `dst` with payload `msg` due at `t` -/
def isDeliverEv (dst : NodeId) (msg : String) (t : Int) (e : Ev (EvKind S)) : Bool :=
  match e.kind with
  | .deliver d _ mg => decide (d = dst ∧ mg = msg ∧ e.ts = t)
  | _ => false

/-- a delivery event for node `dst` with payload `msg`, any time -/
def isDeliverTo (dst : NodeId) (msg : String) (e : Ev (EvKind S)) : Bool :=
  match e.kind with
  | .deliver d _ mg => decide (d = dst ∧ mg = msg)
  | _ => false

/-- an accepted `send(msg, dst)` request (by any node) -/
def isSendAcc (dst : NodeId) (msg : String) : Obs S → Bool
  | .request _ (.send mg (some d)) true => decide (mg = msg ∧ d = (dst : Int))
  | _ => false

/-- an accepted `broadcast(msg)` request by a node other than `dst` -/
def isBcastAcc (dst : NodeId) (msg : String) : Obs S → Bool
  | .request m (.broadcast mg) true => decide (mg = msg ∧ m ≠ dst)
  | _ => false

/-- an accepted request that addresses `dst` with `msg` (unicast to it, or broadcast by another node) -/
def isAddrAcc (dst : NodeId) (msg : String) (o : Obs S) : Bool := isSendAcc dst msg o || isBcastAcc dst msg o

-- the counters: `created…` count the ghost list `accepted` (the events the loop took in), `execd…` the ghost list
-- `executed`, `queued…` the queue, the others the trace
def firedT (w : World S σ) (n : NodeId) (name : String) (t : Int) : Nat := w.trace.countP (isTimerCb n name t)
def accSetT (w : World S σ) (n : NodeId) (name : String) (t : Int) : Nat := w.trace.countP (isSetAcc n name t)
def accCancelT (w : World S σ) (n : NodeId) (name : String) : Nat := w.trace.countP (isCancelAcc n name)
def queuedT (w : World S σ) (n : NodeId) (name : String) (t : Int) : Nat := w.loop.queue.countP (isTimerEv n name t)
def execdT (w : World S σ) (n : NodeId) (name : String) (t : Int) : Nat := w.executed.countP (isTimerEv n name t)
def createdT (w : World S σ) (n : NodeId) (name : String) (t : Int) : Nat := w.accepted.countP (isTimerEv n name t)
def handledP (w : World S σ) (dst : NodeId) (msg : String) (t : Int) : Nat := w.trace.countP (isPacketCb dst msg t)
def queuedD (w : World S σ) (dst : NodeId) (msg : String) (t : Int) : Nat := w.loop.queue.countP (isDeliverEv dst msg t)
def execdD (w : World S σ) (dst : NodeId) (msg : String) (t : Int) : Nat := w.executed.countP (isDeliverEv dst msg t)
def createdD (w : World S σ) (dst : NodeId) (msg : String) (t : Int) : Nat := w.accepted.countP (isDeliverEv dst msg t)
def createdTo (w : World S σ) (dst : NodeId) (msg : String) : Nat := w.accepted.countP (isDeliverTo dst msg)
def handledTo (w : World S σ) (dst : NodeId) (msg : String) : Nat := w.trace.countP (isPacketCbAny dst msg)
def execdTo (w : World S σ) (dst : NodeId) (msg : String) : Nat := w.executed.countP (isDeliverTo dst msg)
def queuedTo (w : World S σ) (dst : NodeId) (msg : String) : Nat := w.loop.queue.countP (isDeliverTo dst msg)
def accSendTo (w : World S σ) (dst : NodeId) (msg : String) : Nat := w.trace.countP (isSendAcc dst msg)
def accBcastNotBy (w : World S σ) (dst : NodeId) (msg : String) : Nat := w.trace.countP (isBcastAcc dst msg)

theorem transmit_countP (cfg : Config S) (src d : NodeId) (mg : String) (w : World S σ)
    (p : Ev (EvKind S) → Bool) :
    (transmit cfg src d mg w).raccepted.countP p = w.raccepted.countP p +
      (if copyDelivered cfg w src d then bit (p (deliveryEv cfg w src d mg)) else 0) := by
  rw [transmit_accepted]
  split
  · rw [countP_cons_bit]
  · rfl

/-- A broadcast, counted by a predicate `p` that looks at a delivery's destination only (`q`): it
    creates at most one counted event per counted destination other than the sender — exactly one on
    a loss-free medium when all of them are in range. -/
theorem broadcastTo_countP (cfg : Config S) (src : NodeId) (mg : String) (p : Ev (EvKind S) → Bool)
    (q : NodeId → Bool) (hp : ∀ ts seq d, p ⟨ts, seq, .deliver d src mg⟩ = q d) (dsts : List NodeId)
    (w : World S σ) :
    ∃ da, (broadcastTo cfg src mg dsts w).raccepted.countP p = w.raccepted.countP p + da ∧
      da ≤ dsts.countP (fun d => d ≠ src && q d) ∧
      (Scalar.gt cfg.failRate (Scalar.ofInt 0) = false → (∀ d ∈ dsts, d ≠ src → inRange w src d = true) →
        da = dsts.countP (fun d => d ≠ src && q d)) := by
  induction dsts generalizing w with
  | nil => exact ⟨0, rfl, Nat.le_refl _, fun _ _ => rfl⟩
  | cons d ds ih =>
    rw [broadcastTo_cons, countP_cons_bit]
    by_cases hd : d = src
    · obtain ⟨da, h1, h2, h3⟩ := ih w
      have hb : bit (decide (d ≠ src) && q d) = 0 := by simp [hd]
      rw [if_pos hd, hb]
      exact ⟨da, h1, h2, fun hl hr => h3 hl (fun x hx => hr x (List.mem_cons_of_mem _ hx))⟩
    · obtain ⟨da, h1, h2, h3⟩ := ih (transmit cfg src d mg w)
      rw [if_neg hd, h1, transmit_countP, show deliveryEv cfg w src d mg = ⟨_, _, .deliver d src mg⟩ from rfl, hp]
      have hb : bit (decide (d ≠ src) && q d) = bit (q d) := by simp [hd]
      refine ⟨(if copyDelivered cfg w src d then bit (q d) else 0) + da, by omega, ?_, fun hl hr => ?_⟩
      · rw [hb]; split <;> omega
      · rw [h3 hl (fun x hx hne => ((transmit_frame cfg src d mg w).inRange src x).trans
          (hr x (List.mem_cons_of_mem _ hx) hne)), hb]
        rw [copyDelivered_lossfree hl, hr d List.mem_cons_self hd, if_pos rfl]
        omega

/-- among the nodes `0 … k-1` a broadcast of `m` counted for `dst` (under condition `b`) reaches `dst`
    alone, and only if `m` is another node -/
theorem range_countP_addr (k m dst : Nat) (b : Bool) :
    (List.range k).countP (fun d => decide (d ≠ m) && (decide (d = dst) && b)) =
      if dst < k then bit (b && decide (m ≠ dst)) else 0 := by
  have h : ∀ d, (decide (d ≠ m) && (decide (d = dst) && b)) = ((d == dst) && (b && decide (m ≠ dst))) := by
    intro d
    by_cases hd : d = dst
    · subst hd
      by_cases hm : m = d
      · simp [hm]
      · simp [hm, Ne.symm hm]
    · simp [hd]
  simp only [h]
  cases b && decide (m ≠ dst) with
  | false => simp
  | true => simp only [Bool.and_true, ← List.count_eq_countP, List.count_range]; rfl

/-! What executing an event adds to a callback counter, the reported time being the event's, is the event
    itself counted by the matching event predicate (a timer event: if it is still pending).  Each case
    is `rfl`. -/

theorem evInc_timerCb (n : NodeId) (name : String) (t : Int) (e : Ev (EvKind S)) (pend : Bool) :
    evInc (isTimerCb n name t) e.ts e pend = if pend then bit (isTimerEv n name t e) else 0 := by
  obtain ⟨ts, seq, kind⟩ := e
  cases kind with
  | timerFire m nm id => rfl
  | _ => cases pend <;> rfl

theorem evInc_packetCb (dst : NodeId) (msg : String) (t : Int) (e : Ev (EvKind S)) (pend : Bool) :
    evInc (isPacketCb dst msg t) e.ts e pend = bit (isDeliverEv dst msg t e) := by
  obtain ⟨ts, seq, kind⟩ := e
  cases kind <;> cases pend <;> rfl

theorem evInc_packetCbAny (dst : NodeId) (msg : String) (t : Int) (e : Ev (EvKind S)) (pend : Bool) :
    evInc (isPacketCbAny dst msg) t e pend = bit (isDeliverTo dst msg e) := by
  obtain ⟨ts, seq, kind⟩ := e
  cases kind <;> cases pend <;> rfl

theorem isTimerEv_kind {n : NodeId} {name : String} {t : Int} {e : Ev (EvKind S)}
    (h : isTimerEv n name t e = true) : ∃ id, e.kind = .timerFire n name id := by
  obtain ⟨ts, seq, kind⟩ := e
  cases kind with
  | timerFire m nm id =>
    obtain ⟨rfl, rfl, _⟩ := of_decide_eq_true h
    exact ⟨id, rfl⟩
  | _ => exact Bool.noConfusion h

theorem isSetAcc_request (cfg : Config S) {n m : NodeId} {name : String} {t : Int} {r : Request S} {ok : Bool}
    (h : isSetAcc n name t (.request m r ok : Obs S) = true) : ok = true ∧ handled cfg r = cfg.hasTimer := by
  cases r with
  | setTimer nm at_ =>
    cases ok with
    | true => exact ⟨rfl, rfl⟩
    | false => exact Bool.noConfusion h
  | _ => exact Bool.noConfusion h

/-- accepted `set_timer` requests = created timer events -/
theorem spec_setT (σ : Type) {cfg : Config S} (ht : cfg.hasTimer = true) (n : NodeId) (name : String) (t : Int) :
    CountSpec σ cfg (fun a b => a = b) (isTimerEv n name t) (fun _ => false) (isSetAcc n name t) NoCond where
  rel := addRel_eq
  req m r w _ :=
    have med := medium_countP (σ := σ) cfg (isTimerEv n name t) (fun _ _ _ _ _ => rfl)
    execReq_cases (motive := fun r x ok => ∃ da, x.raccepted.countP (isTimerEv n name t) =
        w.raccepted.countP (isTimerEv n name t) + da ∧ da = bit (isSetAcc n name t (.request m r ok))) cfg m w
      -- `ht`: without a timer handler `set_timer` returns normally, is logged as accepted, and creates no event
      (skip := fun r ok hok => ⟨0, rfl, (bit_skip cfg hok fun h => ht ▸ isSetAcc_request cfg h).symm⟩)
      (setTimer := fun _ _ _ => ⟨_, countP_cons_bit .., rfl⟩)
      (cancelTimer := fun _ => ⟨0, rfl, rfl⟩)
      (send := fun mg d _ _ _ => ⟨0, med.transmit m d.toNat mg w, rfl⟩)
      (broadcast := fun mg => ⟨0, med.broadcastTo m mg _ w, rfl⟩)
      (inert := fun r _ _ _ hr => ⟨0, rfl, by cases r <;> first | rfl | cases hr⟩) r
  mob := fun _ _ => ⟨rfl, fun _ _ => rfl⟩
  life := ⟨fun _ => rfl, fun _ _ _ => rfl, fun _ => rfl, fun _ _ => rfl, fun _ _ => rfl⟩
  exec := fun e pend => (evInc_request_only _ (fun _ _ _ => rfl) _ e pend).symm

theorem spec0_firedT (σ : Type) (cfg : Config S) {R : Nat → Nat → Prop} (hR : AddRel R) (n : NodeId)
    (name : String) (t : Int) :
    CountSpec0 σ cfg R (fun _ => false) (isTimerEv n name t) (isTimerCb n name t) NoCond :=
  spec0_callback σ cfg hR _ _ (fun _ _ _ => rfl)
    ⟨fun _ => rfl, fun _ _ _ => rfl, fun _ => rfl, fun _ _ => rfl, fun _ _ => rfl⟩

/-- `handle_timer` calls ≤ executed timer events: the event of a cancelled timer is executed without a callback -/
theorem spec_firedT (σ : Type) {cfg : Config S} (ht : cfg.hasTimer = true) (n : NodeId) (name : String) (t : Int) :
    CountSpec σ cfg (fun a b => b ≤ a) (fun _ => false) (isTimerEv n name t) (isTimerCb n name t) NoCond where
  toCountSpec0 := spec0_firedT σ cfg addRel_ge n name t
  exec := by
    intro e pend
    rw [ht, if_pos rfl, evInc_timerCb]
    split
    · exact Nat.le_refl _
    · exact Nat.zero_le _

/-- `handle_packet` calls = executed delivery events, per reported time -/
theorem spec_handledP (σ : Type) {cfg : Config S} (ht : cfg.hasTimer = true) (dst : NodeId) (msg : String)
    (t : Int) :
    CountSpec σ cfg (fun a b => a = b) (fun _ => false) (isDeliverEv dst msg t) (isPacketCb dst msg t) NoCond where
  toCountSpec0 := spec0_callback σ cfg addRel_eq _ _ (fun _ _ _ => rfl)
    ⟨fun _ => rfl, fun _ _ _ => rfl, fun _ => rfl, fun _ _ => rfl, fun _ _ => rfl⟩
  exec := by
    intro e pend
    rw [ht, if_pos rfl, evInc_packetCb]

/-- `handle_packet` calls = executed delivery events -/
theorem spec_handledTo (σ : Type) (cfg : Config S) (dst : NodeId) (msg : String) :
    CountSpec σ cfg (fun a b => a = b) (fun _ => false) (isDeliverTo dst msg) (isPacketCbAny dst msg) NoCond where
  toCountSpec0 := spec0_callback σ cfg addRel_eq _ _ (fun _ _ _ => rfl)
    ⟨fun _ => rfl, fun _ _ _ => rfl, fun _ => rfl, fun _ _ => rfl, fun _ _ => rfl⟩
  exec := fun e pend => (evInc_packetCbAny dst msg _ e pend).symm

theorem isAddrAcc_count (dst : NodeId) (msg : String) (l : List (Obs S)) :
    l.countP (isAddrAcc dst msg) = l.countP (isSendAcc dst msg) + l.countP (isBcastAcc dst msg) := by
  induction l with
  | nil => rfl
  | cons o l ih =>
    rw [countP_cons_bit, countP_cons_bit, countP_cons_bit, ih]
    have : bit (isAddrAcc dst msg o) = bit (isSendAcc dst msg o) + bit (isBcastAcc dst msg o) := by
      unfold isAddrAcc isBcastAcc
      split
      · simp [isSendAcc]
      · rw [Bool.or_false, bit_false, Nat.add_zero]
    omega

/-- every `inRange` test the request makes in `w` succeeds -/
def RangeOkReq (cfg : Config S) (n : NodeId) (r : Request S) (w : World S σ) : Prop :=
  match r with
  | .send _ (some d) => ¬ d < 0 → d < (cfg.nNodes : Int) → d ≠ (n : Int) → inRange w n d.toNat = true
  | .broadcast _ => ∀ d, d < cfg.nNodes → d ≠ n → inRange w n d = true
  | _ => True

theorem isDeliverTo_unicast (cfg : Config S) (w : World S σ) (dst m : NodeId) (msg mg : String) (d : Int)
    (hd : 0 ≤ d) : isDeliverTo dst msg (deliveryEv cfg w m d.toNat mg) =
      isAddrAcc dst msg (.request m (.send mg (some d)) true : Obs S) := by
  have : d.toNat = dst ↔ d = (dst : Int) := by omega
  simp [isDeliverTo, deliveryEv, isAddrAcc, isSendAcc, isBcastAcc, this, and_comm]

theorem isAddrAcc_request (cfg : Config S) {dst m : NodeId} {msg : String} {r : Request S} {ok : Bool}
    (h : isAddrAcc dst msg (.request m r ok : Obs S) = true) : ok = true ∧ handled cfg r = cfg.hasComm := by
  cases ok with
  | false =>
    cases r with
    | send mg d => cases d <;> exact Bool.noConfusion h
    | _ => exact Bool.noConfusion h
  | true =>
    refine ⟨rfl, ?_⟩
    cases r with
    | send mg d => rfl
    | broadcast mg => rfl
    | _ => exact Bool.noConfusion h

/-- The deliveries for `(dst, msg)` that request `r` of node `m` creates from `w` to `x`, against its own
    observation with verdict `ok`: never more than the request addresses to `dst`; exactly as many on a
    loss-free medium with every range test true, for a node `dst` that exists, the communication handler
    being configured. -/
abbrev AddrBalance (cfg : Config S) (dst : NodeId) (msg : String) (m : NodeId) (w : World S σ) (r : Request S)
    (x : World S σ) (ok : Bool) : Prop :=
  ∃ da, x.raccepted.countP (isDeliverTo dst msg) = w.raccepted.countP (isDeliverTo dst msg) + da ∧
    da ≤ bit (isAddrAcc dst msg (.request m r ok)) ∧
    (cfg.hasComm = true → Scalar.gt cfg.failRate (Scalar.ofInt 0) = false → dst < cfg.nNodes →
      RangeOkReq cfg m r w → da = bit (isAddrAcc dst msg (.request m r ok)))

theorem addr_req (cfg : Config S) (dst : NodeId) (msg : String) (m : NodeId) (r : Request S) (w : World S σ) :
    AddrBalance cfg dst msg m w r (execReq cfg m r w).1 (execReq cfg m r w).2 := by
  refine execReq_cases (motive := AddrBalance cfg dst msg m w) cfg m w
    (skip := fun r ok hok => ⟨0, rfl, Nat.zero_le _, fun hc _ _ _ => ?skip⟩)
    (setTimer := fun _ _ _ => ⟨0, countP_cons_bit .., Nat.le_refl _, fun _ _ _ _ => rfl⟩)
    (cancelTimer := fun _ => ⟨0, rfl, Nat.le_refl _, fun _ _ _ _ => rfl⟩)
    (send := fun mg d hd0 hlt hne => ⟨_, transmit_countP .., ?le, fun _ hl _ hG => ?eq⟩)
    (broadcast := fun mg => ?bcast)
    (inert := fun r _ _ _ hr => ⟨0, rfl, Nat.zero_le _, fun _ _ _ _ => by cases r <;> first | rfl | cases hr⟩) r
  case skip =>
    -- `hc`, for the equality only: without a communication handler `send` / `broadcast` return normally,
    -- are logged as accepted, and create nothing
    exact (bit_skip cfg hok fun h => hc ▸ isAddrAcc_request cfg h).symm
  case le => rw [isDeliverTo_unicast cfg w dst m msg mg d hd0]; split <;> omega
  case eq =>
    rw [copyDelivered_lossfree hl, hG (by omega) hlt hne, isDeliverTo_unicast cfg w dst m msg mg d hd0]; rfl
  case bcast =>
    obtain ⟨da, h1, h2, h3⟩ := broadcastTo_countP cfg m mg (isDeliverTo dst msg)
        (fun d => decide (d = dst) && decide (mg = msg)) (fun _ _ _ => by simp [isDeliverTo])
        (List.range cfg.nNodes) w
    have hb : bit (isAddrAcc dst msg (.request m (.broadcast mg) true : Obs S)) =
        bit (decide (mg = msg) && decide (m ≠ dst)) := by simp [isAddrAcc, isSendAcc, isBcastAcc]
    rw [range_countP_addr cfg.nNodes m dst (decide (mg = msg))] at h2 h3
    refine ⟨da, h1, by rw [hb]; split at h2 <;> omega, fun _ hl hdst hG => ?_⟩
    rw [hb, h3 hl (fun d hd hne => hG d (List.mem_range.mp hd) hne), if_pos hdst]

/-- created delivery events ≤ accepted requests addressing the node -/
theorem spec_addr (σ : Type) (cfg : Config S) (dst : NodeId) (msg : String) :
    CountSpec σ cfg (fun a b => a ≤ b) (isDeliverTo dst msg) (fun _ => false) (isAddrAcc dst msg) NoCond where
  rel := addRel_le
  req m r w _ := (addr_req cfg dst msg m r w).imp fun _ h => ⟨h.1, h.2.1⟩
  mob := fun _ _ => ⟨rfl, fun _ _ => rfl⟩
  life := ⟨fun _ => rfl, fun _ _ _ => rfl, fun _ => rfl, fun _ _ => rfl, fun _ _ => rfl⟩
  exec := fun _ _ => Nat.zero_le _

/-- … with equality on a loss-free medium when every range test of the run succeeds -/
theorem spec_addr_eq (σ : Type) {cfg : Config S} (hc : cfg.hasComm = true)
    (hl : Scalar.gt cfg.failRate (Scalar.ofInt 0) = false) (dst : NodeId) (hdst : dst < cfg.nNodes)
    (msg : String) :
    CountSpec σ cfg (fun a b => a = b) (isDeliverTo dst msg) (fun _ => false) (isAddrAcc dst msg)
      (RangeOkReq cfg) :=
  { spec_addr σ cfg dst msg with
    rel := addRel_eq
    req := fun m r w hG => (addr_req cfg dst msg m r w).imp fun _ h => ⟨h.1, h.2.2 hc hl hdst hG⟩
    exec := fun e pend => (evInc_request_only _ (fun _ _ _ => rfl) _ e pend).symm }

section counters
variable {cfg : Config S} {P : NodeId → Proto S σ} {w : World S σ}

theorem created_eq (hw : WInv w) (p : Ev (EvKind S) → Bool) :
    w.accepted.countP p = w.executed.countP p + w.loop.queue.countP p := by
  rw [accepted_countP, executed_countP, ← hw.perm.countP_eq p, List.countP_append]

theorem createdT_eq (hw : WInv w) (n : NodeId) (name : String) (t : Int) :
    createdT w n name t = execdT w n name t + queuedT w n name t := created_eq hw _
theorem createdD_eq (hw : WInv w) (dst : NodeId) (msg : String) (t : Int) :
    createdD w dst msg t = execdD w dst msg t + queuedD w dst msg t := created_eq hw _
theorem createdTo_eq (hw : WInv w) (dst : NodeId) (msg : String) :
    createdTo w dst msg = execdTo w dst msg + queuedTo w dst msg := created_eq hw _

variable {R : Nat → Nat → Prop} {pa px : Ev (EvKind S) → Bool} {po : Obs S → Bool}

/-- `reachableT_count` and `steps_count` on the lists the counters are taken of -/
theorem count_trace (h : R (mA pa px w) (mT po w)) :
    R (w.accepted.countP pa + w.executed.countP px) (w.trace.countP po) := by
  rwa [accepted_countP, executed_countP, trace_countP]

theorem accSetT_eq_createdT (ht : cfg.hasTimer = true) (h : ReachableT cfg P w) (n : NodeId) (name : String)
    (t : Int) : accSetT w n name t = createdT w n name t := by
  simpa [accSetT, createdT] using (count_trace (reachableT_count (spec_setT σ ht n name t) h)).symm

theorem firedT_le_execdT (ht : cfg.hasTimer = true) (h : ReachableT cfg P w) (n : NodeId) (name : String)
    (t : Int) : firedT w n name t ≤ execdT w n name t := by
  simpa [firedT, execdT] using
    count_trace (R := fun a b => b ≤ a) (reachableT_count (spec_firedT σ ht n name t) h)

theorem handledP_eq_execdD (ht : cfg.hasTimer = true) (h : ReachableT cfg P w) (dst : NodeId) (msg : String)
    (t : Int) : handledP w dst msg t = execdD w dst msg t := by
  simpa [handledP, execdD] using (count_trace (reachableT_count (spec_handledP σ ht dst msg t) h)).symm

theorem handledTo_eq_execdTo (h : ReachableT cfg P w) (dst : NodeId) (msg : String) :
    handledTo w dst msg = execdTo w dst msg := by
  simpa [handledTo, execdTo] using (count_trace (reachableT_count (spec_handledTo σ cfg dst msg) h)).symm

theorem createdTo_le_addressed (h : ReachableT cfg P w) (dst : NodeId) (msg : String) :
    createdTo w dst msg ≤ accSendTo w dst msg + accBcastNotBy w dst msg := by
  simpa [createdTo, accSendTo, accBcastNotBy, isAddrAcc_count] using
    count_trace (reachableT_count (spec_addr σ cfg dst msg) h)

theorem createdTo_eq_addressed (hc : cfg.hasComm = true) (hl : Scalar.gt cfg.failRate (Scalar.ofInt 0) = false)
    (k : Nat) (hok : OkSteps (RangeOkReq cfg) cfg P k (init cfg P)) (dst : NodeId) (hdst : dst < cfg.nNodes)
    (msg : String) :
    createdTo (steps cfg P k (init cfg P)) dst msg =
      accSendTo (steps cfg P k (init cfg P)) dst msg + accBcastNotBy (steps cfg P k (init cfg P)) dst msg := by
  simpa [createdTo, accSendTo, accBcastNotBy, isAddrAcc_count] using
    count_trace (steps_count (spec_addr_eq σ hc hl dst hdst msg) P k hok)

end counters

end Sim
