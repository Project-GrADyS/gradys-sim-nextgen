import Mathlib.Analysis.SpecialFunctions.Trigonometric.Arctan
import Mathlib.Analysis.SpecialFunctions.Trigonometric.Inverse
import Mathlib.Analysis.SpecialFunctions.Sqrt
import Mathlib.Tactic.Linarith
import GradysModel.Scalar
/-
  The real-number instance of `Scalar`: what the numeric theorems are stated over, with each operation
  and each derived one (`max`, `min`, `ge`, `gt`, the clamp) read as the real one; and `V3.ext`, for every scalar.
  (IEEE rounding, i.e. the gap to the `Float` instance of the driver, is not formalised — trusted base T3.)
-/
open Real

/-- `math.atan2(y, x)` over the reals -/
noncomputable def atan2R (y x : ℝ) : ℝ :=
  if 0 < x then arctan (y / x)
  else if x < 0 then (if 0 ≤ y then arctan (y / x) + π else arctan (y / x) - π)
  else if 0 < y then π / 2 else if y < 0 then -(π / 2) else 0

noncomputable instance : Scalar ℝ where
  ofInt := fun n => (n : ℝ)
  add := (· + ·)
  sub := (· - ·)
  mul := (· * ·)
  div := (· / ·)
  neg := fun x => -x
  sq := fun x => x ^ 2
  sqrt := Real.sqrt
  sin := Real.sin
  cos := Real.cos
  acos? := fun x => if -1 ≤ x ∧ x ≤ 1 then some (Real.arccos x) else none
  atan2 := atan2R
  radians := fun x => x * (π / 180)
  le := fun a b => decide (a ≤ b)
  lt := fun a b => decide (a < b)

theorem V3.ext {S : Type} {p q : V3 S} (hx : p.x = q.x) (hy : p.y = q.y) (hz : p.z = q.z) :
    p = q := by
  cases p; cases q; congr

namespace RealScalar

@[simp] theorem ofInt_eq (n : Int) : (Scalar.ofInt n : ℝ) = (n : ℝ) := rfl
@[simp] theorem add_eq (a b : ℝ) : Scalar.add a b = a + b := rfl
@[simp] theorem sub_eq (a b : ℝ) : Scalar.sub a b = a - b := rfl
@[simp] theorem mul_eq (a b : ℝ) : Scalar.mul a b = a * b := rfl
@[simp] theorem div_eq (a b : ℝ) : Scalar.div a b = a / b := rfl
@[simp] theorem neg_eq (a : ℝ) : Scalar.neg a = -a := rfl
@[simp] theorem sq_eq (a : ℝ) : Scalar.sq a = a ^ 2 := rfl
@[simp] theorem sqrt_eq (a : ℝ) : Scalar.sqrt a = Real.sqrt a := rfl
@[simp] theorem sin_eq (a : ℝ) : Scalar.sin a = Real.sin a := rfl
@[simp] theorem cos_eq (a : ℝ) : Scalar.cos a = Real.cos a := rfl
@[simp] theorem acos_eq (a : ℝ) :
    Scalar.acos? a = if -1 ≤ a ∧ a ≤ 1 then some (Real.arccos a) else none := rfl
@[simp] theorem atan2_eq (a b : ℝ) : Scalar.atan2 a b = atan2R a b := rfl
@[simp] theorem radians_eq (a : ℝ) : Scalar.radians a = a * (π / 180) := rfl
@[simp] theorem le_eq (a b : ℝ) : (Scalar.le a b = true) ↔ a ≤ b := decide_eq_true_iff
@[simp] theorem lt_eq (a b : ℝ) : (Scalar.lt a b = true) ↔ a < b := decide_eq_true_iff
@[simp] theorem ge_eq (a b : ℝ) : (Scalar.ge a b = true) ↔ b ≤ a := le_eq b a
@[simp] theorem gt_eq (a b : ℝ) : (Scalar.gt a b = true) ↔ b < a := lt_eq b a
@[simp] theorem ge_eq_false (a b : ℝ) : (Scalar.ge a b = false) ↔ a < b := by
  rw [← Bool.not_eq_true, ge_eq, not_le]
@[simp] theorem gt_eq_false (a b : ℝ) : (Scalar.gt a b = false) ↔ a ≤ b := by
  rw [← Bool.not_eq_true, gt_eq, not_lt]

theorem sqdist_eq (a b : V3 ℝ) :
    V3.sqdist a b = (b.x - a.x) ^ 2 + (b.y - a.y) ^ 2 + (b.z - a.z) ^ 2 := rfl

@[simp] theorem max_eq (a b : ℝ) : Scalar.max a b = max a b := by
  rw [max_def_lt]
  unfold Scalar.max
  simp only [lt_eq]

@[simp] theorem min_eq (a b : ℝ) : Scalar.min a b = min a b := by
  rw [min_comm, min_def_lt]
  unfold Scalar.min
  simp only [lt_eq]

/-- `Real.arccos` already saturates outside [-1, 1], so the clamp is invisible over ℝ -/
theorem arccos_clamp (x : ℝ) : arccos (max (-1) (min 1 x)) = arccos x := by
  rcases le_total x (-1) with h | h
  · rw [min_eq_right (by linarith), max_eq_left h, arccos_of_le_neg_one h, arccos_neg_one]
  · rcases le_total x 1 with h1 | h1
    · rw [min_eq_right h1, max_eq_right h]
    · rw [min_eq_left h1, max_eq_right (by norm_num), arccos_one, arccos_eq_zero.mpr h1]

theorem clamp_mem (x : ℝ) : -1 ≤ max (-1) (min 1 x) ∧ max (-1) (min 1 x) ≤ 1 :=
  ⟨le_max_left _ _, max_le (by norm_num) (min_le_left _ _)⟩

end RealScalar
