import GradysProofs.Lemmas.SimMob
import GradysProofs.Lemmas.SimTick
/-
  C12 — each node gets one telemetry per mobility update, carrying its own position.
  `C12_tick_spec` gives the exact effect of one mobility update for every node count, every
  movement state and every update interval.  The run-level statements (`C12_tick_times`,
  `C12_own_position_at_delivery`, `C12_telemetry_tolerant`) are the fields of the mobility invariant
  `MInv` (Lemmas/SimMob.lean), which holds in every world a driver reaches when `0 < dt`.
-/
set_option linter.unusedSectionVars false

namespace C12
open Sim
variable {S σ : Type} [Scalar S]

/-- one mobility update: every node moves by `Mobility.step` from its own state; exactly one
    telemetry event per node is created, in node order, due NOW, carrying that node's own new
    position; then exactly one next update is scheduled `dt` later -/
theorem C12_tick_spec (cfg : Config S) (w : World S σ) :
    (∀ m, (mobTick cfg w).pos m = if m < cfg.nNodes then newPos cfg w m else w.pos m) ∧
    ∃ tel seq, (mobTick cfg w).raccepted = ⟨w.loop.now + cfg.dt, seq, .mobTick⟩ :: (tel ++ w.raccepted) ∧
      tel.reverse.map (fun e => (e.ts, e.kind)) =
        (List.range cfg.nNodes).map (fun n => (w.loop.now, EvKind.telemetry n (newPos cfg w n))) := by
  obtain ⟨hpos, _, _, hnow, new, hacc, hmap⟩ := tickNodes_spec cfg (List.range cfg.nNodes) List.nodup_range w
  rw [mobTick_eq, ← tickNodes_eq]
  refine ⟨?_, new, (tickNodes cfg (List.range cfg.nNodes) w).loop.nextSeq, ?_, hmap⟩
  · intro m; rw [sched_pos, hpos m]; simp [List.mem_range]
  · rw [sched_raccepted, hnow, hacc]

/-- telemetry carries the node's own position: the position in the event for node `n` is `n`'s own
    new position, computed from `n`'s own position, target and speed only -/
theorem C12_own_position (cfg : Config S) (w w' : World S σ) (n : NodeId)
    (h1 : w'.pos n = w.pos n) (h2 : w'.target n = w.target n) (h3 : w'.speed n = w.speed n) :
    newPos cfg w' n = newPos cfg w n := by
  unfold newPos; rw [h1, h2, h3]

/-- no request, program or protocol callback ever changes any node's position: between two
    mobility updates a node stays where the last telemetry said it is -/
theorem C12_callbacks_never_move (cfg : Config S) (P : NodeId → Proto S σ) (n : NodeId)
    (cb : Callback S) (w : World S σ) : (callback cfg P n cb w).pos = w.pos :=
  (pos_kept cfg).callback P n cb w

/-- executing a telemetry event is exactly one `handle_telemetry` on its node with the recorded
    position, reporting the time of the tick that created it -/
theorem C12_telemetry_callback (cfg : Config S) (P : NodeId → Proto S σ) (ts : Int) (seq : Nat)
    (n : NodeId) (p : V3 S) (w : World S σ) :
    execEv cfg P ⟨ts, seq, .telemetry n p⟩ w = callback cfg P n (.telemetry p) w := rfl

/-- in every reachable world (update interval `dt > 0`): exactly one mobility update is queued
    when a mobility handler is configured (none otherwise), and it is due at
    (number of updates executed so far + 1)·dt — the k-th update runs at exactly k·dt -/
theorem C12_tick_times {cfg : Config S} (hdt : 0 < cfg.dt) {P : NodeId → Proto S σ} {w : World S σ}
    (h : Reachable cfg P w) :
    (w.loop.queue.filter (fun e => e.kind.isTick)).length = (if cfg.hasMob then 1 else 0) ∧
    (∀ e ∈ w.loop.queue, e.kind.isTick = true → e.ts = ((tickCount w : Nat) + 1) * cfg.dt) ∧
    (∀ l1 e l2, w.rexecuted = l1 ++ e :: l2 → e.kind.isTick = true →
      e.ts = (((l2.filter (fun e => e.kind.isTick)).length : Nat) + 1) * cfg.dt) :=
  ⟨(reachable_minv hdt h).ticks, (reachable_minv hdt h).tick_time, (reachable_minv hdt h).exec_ticks⟩

/-- every queued telemetry event is due at the current instant (the instant of the update that
    created it), is handled before the next update, and carries the position its node has NOW: when
    it is handled the reported position is the node's own current position -/
theorem C12_own_position_at_delivery {cfg : Config S} (hdt : 0 < cfg.dt) {P : NodeId → Proto S σ}
    {w : World S σ} (h : Reachable cfg P w) :
    (∀ e ∈ w.loop.queue, ∀ n p, e.kind = .telemetry n p → e.ts = w.loop.now ∧ w.pos n = p) ∧
    (∀ e ∈ w.loop.queue, e.kind.isTel = true → ∀ e' ∈ w.loop.queue, e'.kind.isTick = true → e.ts < e'.ts) :=
  ⟨(reachable_minv hdt h).tel_now, (reachable_minv hdt h).tick_after_tel⟩

/-- the same under a tolerant stepped driver (`ReachableT`): an exception that escapes from a telemetry (or any
    other) callback does not disturb the updates that follow - still exactly one update queued, due at (updates
    so far + 1)·dt, every queued telemetry due now and carrying its node's own current position (what seeded
    change C12_K breaks) -/
theorem C12_telemetry_tolerant {cfg : Config S} (hdt : 0 < cfg.dt) {P : NodeId → Proto S σ} {w : World S σ}
    (h : ReachableT cfg P w) :
    (w.loop.queue.filter (fun e => e.kind.isTick)).length = (if cfg.hasMob then 1 else 0) ∧
    (∀ e ∈ w.loop.queue, e.kind.isTick = true → e.ts = ((tickCount w : Nat) + 1) * cfg.dt) ∧
    (∀ e ∈ w.loop.queue, ∀ n p, e.kind = .telemetry n p → e.ts = w.loop.now ∧ w.pos n = p) :=
  ⟨(reachableT_minv hdt h).ticks, (reachableT_minv hdt h).tick_time, (reachableT_minv hdt h).tel_now⟩

/-- non-vacuity: a static node (no target) keeps its position and still gets its telemetry -/
example (cfg : Config S) (w : World S σ) (n : NodeId) (h : w.target n = none) :
    newPos cfg w n = w.pos n := by
  unfold newPos Mobility.step; rw [h]

end C12
