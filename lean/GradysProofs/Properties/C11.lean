import GradysProofs.Lemmas.SimTick
import GradysProofs.Lemmas.RealDist
/-
  C11 — nodes move in straight lines at their speed, never overshoot, and stop on target.

  Model: `Mobility.step` of `GradysModel/Mobility.lean`, written once for every scalar.  The discrete
  clauses (no target, arrival by copying the target, commands change only target / speed, the tick
  applies `step` to every node) hold for every `S`, hence bit-exactly for IEEE doubles; the metric
  clauses are over ℝ (IEEE rounding: trusted base T3).
  Guards `0 ≤ speed`, `0 < dtS`: with a negative speed the real code moves away from the target (and
  divides by zero on it) — a negative speed is not a speed; `update_rate ≤ 0` makes no progress.
-/
namespace C11
open Sim RealScalar

section anyScalar
variable {S σ : Type} [Scalar S]

/-- the distance `_update_movement` computes (`distance_delta`) -/
def codeDist (cur tgt : V3 S) : S := Scalar.sqrt (V3.sqdist cur tgt)

/-- a node without a target does not move -/
theorem C11_no_target (dtS : S) (cur : V3 S) (speed : S) :
    Mobility.step dtS cur none speed = cur := rfl

/-- when `speed*dt ≥ d` the new position IS the target — the code copies the target's three
    coordinates, so this holds for every scalar type (in particular bit-exactly in floats) -/
theorem C11_arrive (dtS : S) (cur tgt : V3 S) (speed : S)
    (h : Scalar.ge (Scalar.mul speed dtS) (codeDist cur tgt) = true) :
    Mobility.step dtS cur (some tgt) speed = tgt ∧
    (Mobility.step dtS cur (some tgt) speed).x = tgt.x ∧
    (Mobility.step dtS cur (some tgt) speed).y = tgt.y ∧
    (Mobility.step dtS cur (some tgt) speed).z = tgt.z := by
  have e : Mobility.step dtS cur (some tgt) speed = tgt := if_pos h
  rw [e]; exact ⟨rfl, rfl, rfl, rfl⟩

/-- the mobility commands change only the issuing node's target / speed — never any position, never
    another node's target or speed, nothing else in the world; they are always accepted.  So the next
    update starts from the current position (no jump). -/
theorem C11_commands_frame (cfg : Config S) (n : NodeId) (w : World S σ) (p : V3 S) (v : S) :
    ((execReq cfg n (.goto p) w).1 = w ∨
      (execReq cfg n (.goto p) w).1 = { w with target := upd w.target n (some p) }) ∧
    ((execReq cfg n (.gotoGeo p) w).1 = w ∨
      (execReq cfg n (.gotoGeo p) w).1 =
        { w with target := upd w.target n (some (Geo.geoToCartesian cfg.refGeo p)) }) ∧
    ((execReq cfg n (.setSpeed v) w).1 = w ∨
      (execReq cfg n (.setSpeed v) w).1 = { w with speed := upd w.speed n v }) ∧
    (∀ r : Request S, (r = .goto p ∨ r = .gotoGeo p ∨ r = .setSpeed v) →
      (execReq cfg n r w).2 = true ∧
      (execReq cfg n r w).1.pos = w.pos ∧
      (∀ m, m ≠ n → (execReq cfg n r w).1.target m = w.target m) ∧
      (∀ m, m ≠ n → (execReq cfg n r w).1.speed m = w.speed m) ∧
      (r = .setSpeed v → (execReq cfg n r w).1.target = w.target) ∧
      (r ≠ .setSpeed v → (execReq cfg n r w).1.speed = w.speed) ∧
      (execReq cfg n r w).1.loop = w.loop ∧ (execReq cfg n r w).1.raccepted = w.raccepted ∧
      (execReq cfg n r w).1.range = w.range) := by
  refine ⟨execReq_mob_fst cfg n w rfl, execReq_mob_fst cfg n w rfl, execReq_mob_fst cfg n w rfl,
    fun r hr => ?_⟩
  -- each command's `effect` is one `upd` at `n`, of `target` or of `speed`
  rcases hr with rfl | rfl | rfl <;> rw [execReq_mob cfg n w rfl] <;> cases cfg.hasMob <;>
    simp +contextual [effect, upd_ne]

/-- what a goto does when a mobility handler is configured: the node's target becomes `p` -/
theorem C11_goto_sets_target (cfg : Config S) (hm : cfg.hasMob = true) (n : NodeId) (w : World S σ)
    (p : V3 S) : (execReq cfg n (.goto p) w).1.target n = some p ∧
      (execReq cfg n (.goto p) w).1.speed n = w.speed n := by
  rw [execReq_mob cfg n w rfl, hm]
  exact ⟨upd_self w.target n (some p), rfl⟩

theorem C11_setSpeed_sets_speed (cfg : Config S) (hm : cfg.hasMob = true) (n : NodeId)
    (w : World S σ) (v : S) : (execReq cfg n (.setSpeed v) w).1.speed n = v ∧
      (execReq cfg n (.setSpeed v) w).1.target n = w.target n := by
  rw [execReq_mob cfg n w rfl, hm]
  exact ⟨upd_self w.speed n v, rfl⟩

/-- one mobility update applies `Mobility.step` to every node's own position, target and speed (all
    read before the update), and changes no target and no speed -/
theorem C11_tick_applies_step (cfg : Config S) (w : World S σ) :
    (mobTick cfg w).target = w.target ∧ (mobTick cfg w).speed = w.speed ∧
    ∀ m, (mobTick cfg w).pos m =
      if m < cfg.nNodes then Mobility.step cfg.dtS (w.pos m) (w.target m) (w.speed m) else w.pos m := by
  obtain ⟨hpos, htg, hsp, _⟩ := C12.tickNodes_spec cfg (List.range cfg.nNodes) List.nodup_range w
  -- the loop over the nodes, then `sched`; `C12.newPos` is `Mobility.step` on the node's fields
  rw [mobTick_eq, ← C12.tickNodes_eq, sched_target, sched_speed, sched_pos]
  refine ⟨htg, hsp, fun m => (hpos m).trans ?_⟩
  simp only [List.mem_range, C12.newPos]

end anyScalar

theorem codeDist_real (cur tgt : V3 ℝ) : codeDist cur tgt = edist3 cur tgt := rfl

/-- a partial step: `speed·dt < d`.  The new position is `cur + λ·(tgt − cur)` with
    `λ = speed·dt/d ∈ [0,1)` — a point of the segment from `cur` to `tgt` —, exactly `speed·dt` away
    from the old position and `d − speed·dt` away from the target; the two distances add up to `d`
    (the equality case of the triangle inequality: the three points are collinear, the new one
    between the other two). -/
theorem C11_advance (dtS : ℝ) (cur tgt : V3 ℝ) (speed : ℝ) (hs : 0 ≤ speed) (hdt : 0 < dtS)
    (h : speed * dtS < edist3 cur tgt) :
    let new := Mobility.step dtS cur (some tgt) speed
    let d := edist3 cur tgt
    let l := speed * dtS / d
    0 ≤ l ∧ l < 1 ∧
    new.x = cur.x + l * (tgt.x - cur.x) ∧ new.y = cur.y + l * (tgt.y - cur.y) ∧
    new.z = cur.z + l * (tgt.z - cur.z) ∧
    edist3 cur new = speed * dtS ∧ edist3 new tgt = d - speed * dtS ∧
    edist3 cur new + edist3 new tgt = edist3 cur tgt := by
  intro new d l
  have hm : 0 ≤ speed * dtS := mul_nonneg hs hdt.le
  have hd : 0 < d := lt_of_le_of_lt hm h
  have hl0 : 0 ≤ l := div_nonneg hm hd.le
  have hl1 : l < 1 := (div_lt_one hd).mpr h
  have hnew : new = ⟨cur.x + (tgt.x - cur.x) * l, cur.y + (tgt.y - cur.y) * l,
      cur.z + (tgt.z - cur.z) * l⟩ := by
    show Mobility.step dtS cur (some tgt) speed = _
    rw [Mobility.step_real, if_neg (not_le.mpr h)]
  have hx : new.x = cur.x + l * (tgt.x - cur.x) := by rw [hnew]; ring
  have hy : new.y = cur.y + l * (tgt.y - cur.y) := by rw [hnew]; ring
  have hz : new.z = cur.z + l * (tgt.z - cur.z) := by rw [hnew]; ring
  -- `new − cur = l·(tgt − cur)` and `tgt − new = (1 − l)·(tgt − cur)`
  have e1 : edist3 cur new = speed * dtS := by
    rw [edist3_of_smul cur tgt cur new l hl0 (by rw [hx, add_sub_cancel_left])
      (by rw [hy, add_sub_cancel_left]) (by rw [hz, add_sub_cancel_left])]
    exact div_mul_cancel₀ _ hd.ne'
  have e2 : edist3 new tgt = d - speed * dtS := by
    rw [edist3_of_smul cur tgt new tgt (1 - l) (sub_nonneg.mpr hl1.le) (by rw [hx]; ring)
      (by rw [hy]; ring) (by rw [hz]; ring), sub_mul, one_mul]
    exact congrArg (d - ·) (div_mul_cancel₀ _ hd.ne')
  refine ⟨hl0, hl1, hx, hy, hz, e1, e2, ?_⟩
  rw [e1, e2]; ring

/-- every update (partial step or arrival): the node moves by `min (speed·dt) d` and the remaining
    distance is `d − min (speed·dt) d`; in particular it never overshoots (`moved ≤ d`) and never
    moves faster than its speed (`moved ≤ speed·dt`) -/
theorem C11_step_min (dtS : ℝ) (cur tgt : V3 ℝ) (speed : ℝ) (hs : 0 ≤ speed) (hdt : 0 < dtS) :
    let new := Mobility.step dtS cur (some tgt) speed
    let d := edist3 cur tgt
    edist3 cur new = min (speed * dtS) d ∧ edist3 new tgt = d - min (speed * dtS) d := by
  intro new d
  by_cases h : edist3 cur tgt ≤ speed * dtS
  · have hnew : new = tgt := by
      show Mobility.step dtS cur (some tgt) speed = _
      rw [Mobility.step_real, if_pos h]
    rw [hnew, min_eq_right h, edist3_self]
    exact ⟨rfl, by ring⟩
  · have h' := not_le.mp h
    obtain ⟨_, _, _, _, _, e1, e2, _⟩ := C11_advance dtS cur tgt speed hs hdt h'
    rw [min_eq_left h'.le]
    exact ⟨e1, e2⟩

/-- the remaining distance after one update, without the `let`s of `C11_step_min` -/
theorem remaining_step (dtS : ℝ) (cur tgt : V3 ℝ) (speed : ℝ) (hs : 0 ≤ speed) (hdt : 0 < dtS) :
    edist3 (Mobility.step dtS cur (some tgt) speed) tgt
      = edist3 cur tgt - min (speed * dtS) (edist3 cur tgt) :=
  (C11_step_min dtS cur tgt speed hs hdt).2

/-- the positions of a node under a fixed target and speed: `traj … k` after `k` updates -/
noncomputable def traj (dtS speed : ℝ) (tgt p0 : V3 ℝ) : Nat → V3 ℝ
  | 0 => p0
  | k + 1 => Mobility.step dtS (traj dtS speed tgt p0 k) (some tgt) speed

/-- fixed target and speed: after `k` updates the remaining distance is `max 0 (d₀ − k·speed·dt)`;
    the node is exactly on the target at every update `k` with `d₀ ≤ k·speed·dt` — i.e. from update
    `⌈d₀/(speed·dt)⌉` on when `speed > 0` — and stays there -/
theorem C11_trajectory (dtS speed : ℝ) (tgt p0 : V3 ℝ) (hs : 0 ≤ speed) (hdt : 0 < dtS) :
    (∀ k : Nat, edist3 (traj dtS speed tgt p0 k) tgt = max 0 (edist3 p0 tgt - k * (speed * dtS))) ∧
    (∀ k : Nat, edist3 p0 tgt ≤ k * (speed * dtS) → traj dtS speed tgt p0 k = tgt) ∧
    (0 < speed → ∀ k : Nat, ⌈edist3 p0 tgt / (speed * dtS)⌉₊ ≤ k → traj dtS speed tgt p0 k = tgt) ∧
    (∀ k : Nat, traj dtS speed tgt p0 k = tgt → ∀ j, k ≤ j → traj dtS speed tgt p0 j = tgt) := by
  have hm : 0 ≤ speed * dtS := mul_nonneg hs hdt.le
  have hdist : ∀ k : Nat,
      edist3 (traj dtS speed tgt p0 k) tgt = max 0 (edist3 p0 tgt - k * (speed * dtS)) := by
    intro k
    induction k with
    | zero =>
      simp only [traj, Nat.cast_zero, zero_mul, sub_zero]
      exact (max_eq_right (edist3_nonneg _ _)).symm
    | succ k ih =>
      rw [traj, remaining_step _ _ _ _ hs hdt, ih, max_zero_sub_min hm]
      push_cast
      rw [add_mul, one_mul, sub_add_eq_sub_sub]
  have hon : ∀ k : Nat, edist3 p0 tgt ≤ k * (speed * dtS) → traj dtS speed tgt p0 k = tgt :=
    fun k hk => (edist3_eq_zero_iff _ _).mp ((hdist k).trans (max_eq_left (sub_nonpos.mpr hk)))
  refine ⟨hdist, hon, fun hsp k hk => hon k ((div_le_iff₀ (mul_pos hsp hdt)).mp (Nat.ceil_le.mp hk)),
    fun k hk j hkj => hon j ?_⟩
  -- on the target at update `k` means `d₀ ≤ k·speed·dt`, which is at most `j·speed·dt`
  have h0 := hdist k
  rw [hk, edist3_self] at h0
  exact (sub_nonpos.mp ((le_max_right _ _).trans_eq h0.symm)).trans
    (mul_le_mul_of_nonneg_right (Nat.cast_le.mpr hkj) hm)

/-- no overshoot along the whole trajectory: the remaining distance never increases -/
theorem C11_remaining_antitone (dtS speed : ℝ) (tgt p0 : V3 ℝ) (hs : 0 ≤ speed) (hdt : 0 < dtS)
    (k : Nat) : edist3 (traj dtS speed tgt p0 (k + 1)) tgt ≤ edist3 (traj dtS speed tgt p0 k) tgt := by
  rw [traj, remaining_step _ _ _ _ hs hdt]
  exact sub_le_self _ (le_min (mul_nonneg hs hdt.le) (edist3_nonneg _ _))

theorem edist3_three_four : edist3 ⟨0, 0, 0⟩ ⟨3, 4, 0⟩ = 5 :=
  edist3_eq_of_sq (by norm_num) (by norm_num)

/-- a partial step: from the origin towards (3,4,0) (distance 5) at speed 2, dt 1/2: the hypothesis
    of `C11_advance` holds, and the node lands on (3/5, 4/5, 0) -/
example : (2 : ℝ) * (1 / 2) < edist3 ⟨0, 0, 0⟩ ⟨3, 4, 0⟩ ∧
    Mobility.step (1 / 2 : ℝ) ⟨0, 0, 0⟩ (some ⟨3, 4, 0⟩) 2 = ⟨3 / 5, 4 / 5, 0⟩ := by
  refine ⟨by rw [edist3_three_four]; norm_num, ?_⟩
  rw [Mobility.step_real, edist3_three_four, if_neg (by norm_num)]
  congr 1 <;> norm_num

/-- an arrival: the same node at speed 16 reaches the target in one update -/
example : Mobility.step (1 / 2 : ℝ) ⟨0, 0, 0⟩ (some ⟨3, 4, 0⟩) 16 = ⟨3, 4, 0⟩ := by
  rw [Mobility.step_real, edist3_three_four, if_pos (by norm_num)]

/-- a trajectory: distance 5, speed·dt = 2: remaining 5, 3, 1, 0, 0 — on target from update
    ⌈5/2⌉ = 3 on -/
example : ⌈(5 : ℝ) / (4 * (1 / 2))⌉₊ = 3 := by
  rw [Nat.ceil_eq_iff (by norm_num)]; norm_num

end C11
