import GradysProofs.Lemmas.ELHist
import GradysProofs.Lemmas.SimInv
import GradysProofs.Lemmas.HeapRefine
/-
  C03 — events due at the same instant run in the order they were requested (FIFO).
  `seq` is the request order (`WInv.acc_sorted`: accepted requests carry strictly increasing `seq`).
-/
set_option linter.unusedSectionVars false

namespace C03
open Sim
variable {S σ : Type} [Scalar S] {K : Type}

/-- for every run of a *tolerant stepped driver* (`ReachableT`: steps, requests issued
    from outside, and steps out of which a callback's exception escaped while the caller kept stepping, in
    any order): sequence numbers are the request order, the executed keys are strictly increasing
    - so FIFO among ties survives an escaped exception - and nothing queued overtakes anything executed -/
theorem C03_fifo_tolerant {cfg : Config S} (hdt : 0 ≤ cfg.dt) {P : NodeId → Proto S σ}
    {w : World S σ} (h : ReachableT cfg P w) :
    w.accepted.Pairwise (fun a b => a.seq < b.seq) ∧ w.executed.Pairwise keyLt ∧
    (∀ a ∈ w.executed, ∀ b ∈ w.loop.queue, keyLt a b) ∧
    (∀ i j (hi : i < w.executed.length) (hj : j < w.executed.length),
      w.executed[i].ts ≤ w.executed[j].ts → w.executed[i].seq < w.executed[j].seq → i < j) := by
  have inv := reachableT_inv hdt h
  have hp : w.executed.Pairwise keyLt := List.pairwise_reverse.mpr inv.exec_sorted
  refine ⟨List.pairwise_reverse.mpr inv.acc_sorted, hp,
    fun a ha b hb => inv.exec_lt_queue a (List.mem_reverse.mp ha) b hb, fun i j hi hj hts hseq => ?_⟩
  -- were `j ≤ i`, the key at `j` would not be above the key at `i`
  apply Nat.lt_of_not_le
  intro hle
  rcases Nat.lt_or_eq_of_le hle with hgt | heq
  · exact keyLt_asymm (List.pairwise_iff_getElem.mp hp j i hj hi hgt) (keyLt_of_ts_le_of_seq_lt hts hseq)
  · subst heq; omega

/-- sequence numbers are the request order: the accepted requests, oldest first, carry strictly
    increasing `seq` -/
theorem C03_seq_is_request_order {cfg : Config S} (hdt : 0 ≤ cfg.dt) {P : NodeId → Proto S σ}
    {w : World S σ} (h : Reachable cfg P w) : w.accepted.Pairwise (fun a b => a.seq < b.seq) :=
  (C03_fifo_tolerant hdt h.toT).1

/-- along every run the executed events' (ts, seq) is strictly increasing -/
theorem C03_exec_key_strictly_increasing {cfg : Config S} (hdt : 0 ≤ cfg.dt)
    {P : NodeId → Proto S σ} {w : World S σ} (h : Reachable cfg P w) :
    w.executed.Pairwise keyLt :=
  (C03_fifo_tolerant hdt h.toT).2.1

/-- FIFO: if `a` was requested before `b` (smaller `seq`) and is due no later, and both have
    executed, then `a` executed first: it sits at a smaller index of the executed list. In
    particular for equal timestamps. -/
theorem C03_fifo {cfg : Config S} (hdt : 0 ≤ cfg.dt) {P : NodeId → Proto S σ} {w : World S σ}
    (h : Reachable cfg P w) (i j : Nat) (hi : i < w.executed.length) (hj : j < w.executed.length)
    (hts : w.executed[i].ts ≤ w.executed[j].ts) (hseq : w.executed[i].seq < w.executed[j].seq) :
    i < j :=
  (C03_fifo_tolerant hdt h.toT).2.2.2 i j hi hj hts hseq

/-- a queued event never overtakes an executed one: everything still queued is later in (ts, seq)
    than everything executed -/
theorem C03_queue_after_executed {cfg : Config S} (hdt : 0 ≤ cfg.dt) {P : NodeId → Proto S σ}
    {w : World S σ} (h : Reachable cfg P w) : ∀ a ∈ w.executed, ∀ b ∈ w.loop.queue, keyLt a b :=
  (C03_fifo_tolerant hdt h.toT).2.2.1

/-- messages on one link with a fixed delay, and same-instant timers of one node: a later request
    with a due time not earlier gets a later key, so (by `C03_fifo`) it is handled later -/
theorem C03_later_request_later_key {cfg : Config S} (hdt : 0 ≤ cfg.dt) {P : NodeId → Proto S σ}
    {w : World S σ} (h : Reachable cfg P w) (ts : Int) (k : EvKind S) :
    ∀ a ∈ w.raccepted, a.ts ≤ ts → keyLt a ⟨ts, w.loop.nextSeq, k⟩ := by
  intro a ha hle
  exact keyLt_of_ts_le_of_seq_lt hle ((reachable_inv hdt h).acc_seq_lt a ha)

/-- the bare queue, for every history of inserts interleaved with removals: the popped events are
    strictly increasing in (ts, seq), and what is still queued is strictly sorted -/
theorem C03_el_history_fifo (ops : List (ELOp K)) :
    let g := (ELG.init : ELG K).run ops
    g.popped.reverse.Pairwise keyLt ∧ g.l.queue.Pairwise keyLt := by
  intro g
  have inv := ELG.run_inv _ ops (ELG.init_inv (K := K))
  exact ⟨List.pairwise_reverse.mpr inv.popped_sorted, inv.sorted⟩

/-- … and after every such history the event `pop` returns is below everything left in the queue -/
theorem C03_el_pop_least (ops : List (ELOp K)) (e : Ev K) (l' : EL K)
    (h : ((EL.empty : EL K).run ops).1.pop = .ok (e, l')) : ∀ x ∈ l'.queue, keyLt e x := by
  have inv := ELG.run_inv _ ops (ELG.init_inv (K := K))
  rw [ELG.run_init_l] at h
  exact sorted_head_least (EL.queue_of_pop h ▸ inv.sorted)

/-- non-vacuity: in the model, whose order is the repaired (ts, seq), four same-time requests pop FIFO
    (finding F03 is that the pinned order does not: `C03_ts_only_heap_not_fifo`) -/
example : (((EL.empty : EL Nat).run [.schedule 1 0, .schedule 1 1, .schedule 1 2, .schedule 1 3,
    .pop, .pop, .pop, .pop]).2.filterMap (fun o => match o with | .ev (some e) => some e.kind | _ => none))
    = [0, 1, 2, 3] := by decide

open Heap

/-- with the pinned timestamp-only `__lt__`, four events scheduled for the same instant in order
    0,1,2,3 pop as 0,2,1,3 — the literal FIFO statement is false of the pinned code -/
theorem C03_ts_only_heap_not_fifo : drain ltTs (pushAll ltTs 4) 4 = [0, 2, 1, 3] := by decide

/-- with the repaired (ts, seq) order the same port pops bursts of 8 FIFO (a test of the port, not
    the unbounded claim — that is `C03_fifo` on the sorted-list model, which
    `C03_heapq_refines_sorted_queue` carries over to the port) -/
theorem C03_key_heap_fifo_8 : drain ltKey (pushAll ltKey 8) 8 = [0, 1, 2, 3, 4, 5, 6, 7] := by decide

/-! "The heap behaves like the stably sorted list" is not in the trusted base: the theorems below carry what is
    proved on the sorted list over to the port of `heapq.py`. -/
variable {α : Type}

/-- the order hypothesis of the two theorems below, `StrictWeakOn lt P` (irreflexive, transitive and
    `¬ >` transitive on the elements satisfying `P`), holds for every `lt` that is a strict total
    order on the elements present: irreflexive, transitive, total on distinct elements -/
theorem C03_strict_total_is_strict_weak {lt : α → α → Bool} {P : α → Prop}
    (irrefl : ∀ a, P a → lt a a = false)
    (trans : ∀ a b c, P a → P b → P c → lt a b = true → lt b c = true → lt a c = true)
    (total : ∀ a b, P a → P b → a ≠ b → lt a b = true ∨ lt b a = true) : StrictWeakOn lt P :=
  StrictWeakOn.of_total irrefl trans total

/-- `heappush`, when `lt` is a strict weak order on the elements present (`P` holds of the heap's
    elements and of the new one): the heap invariant `∀ i > 0, ¬ a[i] < a[(i-1)/2]` is preserved and
    the contents are the old contents plus the new element -/
theorem C03_heappush_valid_perm {lt : α → α → Bool} {P : α → Prop} (sw : StrictWeakOn lt P)
    {h : Array α} (hall : ∀ y ∈ h.toList, P y) (hinv : HeapInv lt h) (x : α) (hx : P x) :
    HeapInv lt (heappush lt h x) ∧ (heappush lt h x).toList.Perm (x :: h.toList) :=
  heappush_spec_on sw hall hinv x hx

/-- `heappop`: `none` on the empty heap; on a non-empty valid heap it returns an element `e` than
    which no element of the heap is smaller, leaves a valid heap, and old contents = `e` + new contents -/
theorem C03_heappop_min_valid_perm {lt : α → α → Bool} {P : α → Prop} (sw : StrictWeakOn lt P)
    {h : Array α} (hall : ∀ y ∈ h.toList, P y) (hinv : HeapInv lt h) :
    (h.size = 0 → heappop lt h = none) ∧
    (0 < h.size → ∃ e h', heappop lt h = some (e, h') ∧ (∀ y ∈ h.toList, lt y e = false) ∧
      HeapInv lt h' ∧ h.toList.Perm (e :: h'.toList)) := by
  refine ⟨heappop_empty lt h, fun hne => ?_⟩
  obtain ⟨h', hp, hinv', hperm⟩ := heappop_spec_on sw hall hinv hne
  exact ⟨_, h', hp, hinv.root_min sw hall hne, hinv', hperm⟩

/-- fuel: the loops of the port stop by themselves within the fuel it passes (the array size) —
    the results are those of *any* fuel `≥ len - 1`, for every order and every array -/
theorem C03_heapq_fuel_suffices (lt : α → α → Bool) (h : Array α) (x : α) :
    (∀ fuel, h.size ≤ fuel → siftdown lt (h.push x) 0 h.size x fuel = heappush lt h x) ∧
    (∀ f1 f2, h.size - 1 ≤ f1 → h.size - 1 ≤ f2 → heappopFuel lt h f1 f2 = heappop lt h) :=
  ⟨fun fuel hf => heappush_fuel lt h x fuel hf, fun f1 f2 h1 h2 => heappop_fuel lt h f1 f2 h1 h2⟩

/-- push step of the refinement (`Rel h q`: `h` a valid (ts, seq)-heap, contents a permutation of
    `q`, `q` strictly sorted by (ts, seq)): if the new sequence number exceeds all queued ones,
    `heappush` is stable insertion -/
theorem C03_heapq_push_refines {h : Array (Ev K)} {q : List (Ev K)} (r : Rel h q) (e : Ev K)
    (hseq : ∀ x ∈ q, x.seq < e.seq) : Rel (heappush keyLtb h e) (insertEv e q) :=
  r.push e hseq

/-- pop step of the refinement: the heap pops exactly the head of the sorted list -/
theorem C03_heapq_pop_refines {h : Array (Ev K)} {e : Ev K} {rest : List (Ev K)}
    (r : Rel h (e :: rest)) : ∃ h', heappop keyLtb h = some (e, h') ∧ Rel h' rest :=
  r.pop

/-- for every history of the public `EventLoop` API, the event loop on the real heap (`HEL`:
    `heappush`/`heappop`/`heap[0]`/`len(heap)`) and the sorted-list loop `EL` of `Queue.lean` return
    the same outputs — the same events in the same order, the same errors, lengths and clock —
    and end in related states -/
theorem C03_heapq_refines_sorted_queue (ops : List (ELOp K)) :
    ((HEL.empty : HEL K).run ops).2 = ((EL.empty : EL K).run ops).2 ∧
    HRel ((HEL.empty : HEL K).run ops).1 ((EL.empty : EL K).run ops).1 :=
  HRel.empty.run ops

/-- non-vacuity: the heap loop really runs; same-time requests pop FIFO, earlier times first -/
example : (((HEL.empty : HEL Nat).run [.schedule 2 0, .schedule 1 1, .schedule 1 2, .schedule 1 3,
    .pop, .pop, .schedule 1 4, .pop, .pop, .pop]).2.filterMap
      (fun o => match o with | .ev (some e) => some e.kind | _ => none))
    = [1, 2, 3, 4, 0] := by decide

end C03
