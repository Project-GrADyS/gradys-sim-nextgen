import GradysProofs.Lemmas.ELHist
import GradysProofs.Lemmas.SimTrace
import GradysProofs.Lemmas.Medium
/-
  C01 — simulated time never runs backwards and callbacks see their due time.
  Guard `0 ≤ cfg.dt`: with a negative update interval the real `MobilityHandler.inject` raises at
  construction, so no run exists.
-/
set_option linter.unusedSectionVars false

namespace C01
open Sim
variable {S σ : Type} [Scalar S] {K : Type}

/-- nothing is ever queued for the past -/
theorem C01_inv_queue_ge_now {cfg : Config S} (hdt : 0 ≤ cfg.dt) {P : NodeId → Proto S σ}
    {w : World S σ} (h : Reachable cfg P w) : ∀ e ∈ w.loop.queue, w.loop.now ≤ e.ts :=
  (reachable_inv hdt h).ge_now

/-- under a tolerant stepped driver (`ReachableT`: steps out of which a callback's exception escaped are
    part of the run): the times reported to callbacks never decrease, executed timestamps never decrease -/
theorem C01_times_monotone_tolerant {cfg : Config S} (hdt : 0 ≤ cfg.dt) {P : NodeId → Proto S σ}
    {w : World S σ} (h : ReachableT cfg P w) :
    (cbTimes w.trace).Pairwise (fun a b => a ≤ b) ∧ w.executed.Pairwise (fun a b => a.ts ≤ b.ts) := by
  constructor
  · rw [cbTimes_trace]
    exact List.pairwise_reverse.mpr (reachableT_tinv hdt h).mono
  · exact (reachableT_inv hdt h).executed_mono

/-- events are executed in non-decreasing timestamp order — including events scheduled from inside
    callbacks, zero-delay and same-instant requests -/
theorem C01_exec_times_monotone {cfg : Config S} (hdt : 0 ≤ cfg.dt) {P : NodeId → Proto S σ}
    {w : World S σ} (h : Reachable cfg P w) : w.executed.Pairwise (fun a b => a.ts ≤ b.ts) :=
  (C01_times_monotone_tolerant hdt h.toT).2

/-- the clock never decreases from one step to the next, and equals the last executed event's time -/
theorem C01_clock_monotone {cfg : Config S} (hdt : 0 ≤ cfg.dt) {P : NodeId → Proto S σ}
    {w : World S σ} (h : Reachable cfg P w) : w.loop.now ≤ (step cfg P w).1.loop.now :=
  (step_inv cfg hdt P w (reachable_inv hdt h)).2

/-- the times reported to protocol callbacks (initialize … finish), in trace order, never decrease -/
theorem C01_trace_times_monotone {cfg : Config S} (hdt : 0 ≤ cfg.dt) {P : NodeId → Proto S σ}
    {w : World S σ} (h : Reachable cfg P w) : (cbTimes w.trace).Pairwise (fun a b => a ≤ b) :=
  (C01_times_monotone_tolerant hdt h.toT).1

/-- every callback run while executing event `e` reports exactly `e.ts` (the instant it was due),
    provided a timer handler — the only source of the clock for protocols — is configured
    (without one `PythonProvider.current_time()` returns 0 by documented design) -/
theorem C01_callback_time_eq_due (cfg : Config S) (hdt : 0 ≤ cfg.dt) (P : NodeId → Proto S σ)
    (e : Ev (EvKind S)) (rest : List (Ev (EvKind S))) (w : World S σ) :
    ∃ l, (execStep cfg P e rest w).rtrace = l ++ w.rtrace ∧
      ∀ n cb t, Obs.callback n cb t ∈ l → t = if cfg.hasTimer then e.ts else 0 :=
  -- the time reported throughout is that of the popped world, whose clock is `e.ts`
  reportedTime_popped cfg e rest w ▸ (execStep_ext cfg P e rest w).trace_ext

/-- the due time of a timer event is the requested time; a request for the past is refused and
    changes nothing -/
theorem C01_timer_due (cfg : Config S) (ht : cfg.hasTimer = true) (n : NodeId) (name : String)
    (at_ : Int) (w : World S σ) :
    (at_ < w.loop.now → execReq cfg n (.setTimer name at_) w = (w, false)) ∧
    (w.loop.now ≤ at_ → (execReq cfg n (.setTimer name at_) w).2 = true ∧
      (execReq cfg n (.setTimer name at_) w).1.raccepted =
        ⟨at_, w.loop.nextSeq, .timerFire n name (w.nextTimer n)⟩ :: w.raccepted) := by
  rw [execReq_setTimer cfg ht]
  constructor
  · intro h; rw [if_pos h]
  · intro h
    rw [if_neg (by omega)]
    exact ⟨rfl, rfl⟩

/-- the due time of a delivery is the send time plus the configured delay (the send time itself
    when the delay is not positive) -/
theorem C01_delivery_due (cfg : Config S) (src dst : NodeId) (msg : String) (w : World S σ) :
    (transmit cfg src dst msg w).raccepted = w.raccepted ∨
    (transmit cfg src dst msg w).raccepted =
      ⟨w.loop.now + max cfg.delay 0, w.loop.nextSeq, .deliver dst src msg⟩ :: w.raccepted := by
  rw [transmit_accepted, ← deliverTime_eq]
  split
  · exact Or.inr rfl
  · exact Or.inl rfl

/-- the bare event loop: a schedule request for the past is refused; a pop never moves the clock
    backwards, for every history of API calls -/
theorem C01_el_history (ops : List (ELOp K)) :
    let g := (ELG.init : ELG K).run ops
    (∀ e ∈ g.l.queue, g.l.now ≤ e.ts) ∧ g.popped.Pairwise (fun a b => b.ts ≤ a.ts) ∧
    (∀ a ∈ g.popped, a.ts ≤ g.l.now) := by
  intro g
  have inv := ELG.run_inv _ ops (ELG.init_inv (K := K))
  exact ⟨inv.ge_now, inv.popped_sorted.imp keyLt_ts_le, inv.popped_le_now⟩

theorem C01_past_refused (l : EL K) (ts : Int) (k : K) (h : ts < l.now) :
    l.schedule ts k = .error .past := by
  simp [EL.schedule, h]

/-- non-vacuity: a history with a refused past request (`schedule 2` after popping 3) -/
example : (((EL.empty : EL Nat).run [.schedule 3 0, .pop, .schedule 2 1, .schedule 3 2, .pop]).2.map
    (fun o => match o with | .err .past => 1 | _ => 0)) = [0, 0, 1, 0, 0] := by decide

end C01
