import GradysProofs.Lemmas.RandomTrip
import GradysProofs.RealScalar
/-
  C17 — random trips stay inside their box, redraw only on arrival, and stop when told.

  The discrete theorems hold for every scalar type `S` (hence for IEEE doubles as well as for ℝ),
  every configuration, every draw stream and every history of initiate / finish / telemetry /
  travel / queries (`exec cfg draws RT.init ops`), by induction on the history (`tinv_exec`);
  `exec` is the final state of the model's `run`, which also records every return value (`run_fst`).
  The in-box theorem is over ℝ.
-/

namespace C17
open RandomTrip Disp

def InBox (cfg : Config ℝ) (p : V3 ℝ) : Prop :=
  cfg.xlo ≤ p.x ∧ p.x ≤ cfg.xhi ∧ cfg.ylo ≤ p.y ∧ p.y ≤ cfg.yhi ∧ cfg.zlo ≤ p.z ∧ p.z ≤ cfg.zhi

theorem uniform_mem {lo hi u : ℝ} (h : lo ≤ hi) (hu0 : 0 ≤ u) (hu1 : u < 1) :
    lo ≤ uniform lo hi u ∧ uniform lo hi u ≤ hi ∧ (lo < hi → uniform lo hi u < hi) := by
  simp only [uniform, RealScalar.add_eq, RealScalar.mul_eq, RealScalar.sub_eq]
  have h0 : 0 ≤ hi - lo := sub_nonneg.mpr h
  exact ⟨le_add_of_nonneg_right (mul_nonneg h0 hu0), le_sub_iff_add_le'.mp (mul_le_of_le_one_right h0 hu1.le),
    fun hlt => lt_sub_iff_add_lt'.mp (mul_lt_of_lt_one_right (sub_pos.mpr hlt) hu1)⟩

theorem waypoint_inBox {cfg : Config ℝ} {draws : Nat → ℝ}
    (hx : cfg.xlo ≤ cfg.xhi) (hy : cfg.ylo ≤ cfg.yhi) (hz : cfg.zlo ≤ cfg.zhi)
    (hd : ∀ i, 0 ≤ draws i ∧ draws i < 1) (n : Nat) : InBox cfg (waypoint cfg draws n) := by
  have a := uniform_mem hx (hd n).1 (hd n).2
  have b := uniform_mem hy (hd (n + 1)).1 (hd (n + 1)).2
  have c := uniform_mem hz (hd (n + 2)).1 (hd (n + 2)).2
  exact ⟨a.1, a.2.1, b.1, b.2.1, c.1, c.2.1⟩

/-- **In the box.**  Over ℝ, for a box with `lo ≤ hi` on every axis and draws in `[0, 1)`:
    after every history every command the provider ever received is a point of the box (each
    coordinate in its own axis' range), and so is the current target; `travel_to_random_waypoint`
    sends exactly one command, the very waypoint it returns, which is in the box, drawn from the
    next three draws in the order x, y, z. -/
theorem C17_in_box (cfg : Config ℝ) (draws : Nat → ℝ)
    (hx : cfg.xlo ≤ cfg.xhi) (hy : cfg.ylo ≤ cfg.yhi) (hz : cfg.zlo ≤ cfg.zhi)
    (hd : ∀ i, 0 ≤ draws i ∧ draws i < 1) (ops : List (Op ℝ)) :
    let s := exec cfg draws RT.init ops
    (∀ c ∈ s.cmds, InBox cfg c) ∧ (∀ t, s.target = some t → InBox cfg t) ∧
    (travel cfg draws s).1.cmds = (travel cfg draws s).2 :: s.cmds ∧ InBox cfg (travel cfg draws s).2 ∧
    (travel cfg draws s).2 = ⟨cfg.xlo + (cfg.xhi - cfg.xlo) * draws s.used,
                               cfg.ylo + (cfg.yhi - cfg.ylo) * draws (s.used + 1),
                               cfg.zlo + (cfg.zhi - cfg.zlo) * draws (s.used + 2)⟩ := by
  intro s
  have inv : TInv cfg draws s := tinv_exec (tinv_init cfg draws) ops
  have box := waypoint_inBox hx hy hz hd
  refine ⟨fun c hc => ?_, fun t ht => ?_, rfl, box _, rfl⟩
  · obtain ⟨n, rfl⟩ := inv.cmds c hc
    exact box n
  · obtain ⟨n, rfl⟩ := inv.tgt t ht
    exact box n

/-- degenerate boxes are allowed: `lo = hi` pins the coordinate -/
example (c u : ℝ) : uniform c c u = c := by
  simp only [uniform, RealScalar.add_eq, RealScalar.mul_eq, RealScalar.sub_eq, sub_self, zero_mul, add_zero]

variable {S : Type} [Scalar S]

/-- **Redraw iff arrived.**  After every history, while a trip is ongoing (its target is `t`) a
    telemetry at `pos` draws a new waypoint iff `squared_distance(pos, t) <= tolerance * tolerance`:
    then exactly one command is sent — the waypoint of the next three draws —, it becomes the
    target and three draws are consumed; otherwise no command, no draw, same target.  In both cases
    the trip stays ongoing and the protocol's own `handle_telemetry` runs exactly once. -/
theorem C17_redraw_iff (cfg : Config S) (draws : Nat → S) (ops : List (Op S)) (pos : V3 S) :
    let s := exec cfg draws RT.init ops
    let s' := telemetry cfg draws s pos
    s.ongoing = true → ∃ t, s.target = some t ∧
      (Scalar.le (V3.sqdist pos t) (Scalar.mul cfg.tol cfg.tol) = true →
        s'.cmds = waypoint cfg draws s.used :: s.cmds ∧ s'.used = s.used + 3 ∧
        s'.target = some (waypoint cfg draws s.used)) ∧
      (Scalar.le (V3.sqdist pos t) (Scalar.mul cfg.tol cfg.tol) = false →
        s'.cmds = s.cmds ∧ s'.used = s.used ∧ s'.target = s.target) ∧
      s'.ongoing = true ∧ s'.ownCalls = s.ownCalls + 1 := by
  intro s s' ho
  have inv : TInv cfg draws s := tinv_exec (tinv_init cfg draws) ops
  obtain ⟨h, t, hh, ht, hc⟩ := inv.on ho
  have hs' : s' = _ := telemetry_on pos hh ht hc
  rw [hs']
  refine ⟨t, ht, fun ha => ?_, fun ha => ?_, ?_⟩
  · rw [if_pos (c := arrived cfg pos t = true) ha]; exact ⟨rfl, rfl, rfl⟩
  · rw [if_neg (c := arrived cfg pos t = true) (ne_true_of_eq_false ha)]; exact ⟨rfl, rfl, rfl⟩
  · split <;> exact ⟨ho, rfl⟩

/-- over ℝ the arrival test is `‖pos − t‖² ≤ tol²` -/
theorem C17_arrival_real (cfg : Config ℝ) (pos t : V3 ℝ) :
    arrived cfg pos t = true ↔
      (t.x - pos.x) ^ 2 + (t.y - pos.y) ^ 2 + (t.z - pos.z) ^ 2 ≤ cfg.tol ^ 2 := by
  simp only [arrived, V3.sqdist, RealScalar.le_eq, RealScalar.add_eq, RealScalar.sq_eq, RealScalar.sub_eq,
    RealScalar.mul_eq]
  rw [sq cfg.tol]

/-- non-vacuity of both branches (a unit box corner, tolerance 1) -/
example :
    let cfg : Config ℝ := ⟨0, 0, 0, 0, 0, 0, 1⟩
    arrived cfg ⟨1, 0, 0⟩ ⟨0, 0, 0⟩ = true ∧ arrived cfg ⟨2, 0, 0⟩ ⟨0, 0, 0⟩ = false := by
  intro cfg
  constructor
  · rw [C17_arrival_real]; norm_num [cfg]
  · have : ¬ arrived cfg ⟨2, 0, 0⟩ ⟨0, 0, 0⟩ = true := by rw [C17_arrival_real]; norm_num [cfg]
    simpa using this

/-- **Total.**  `trip_ongoing`, `current_target` and `finish_random_trip` are defined in every state
    (the model's functions are total and read fields that exist from construction): a fresh plugin
    reports no trip and no target; the queries never change the state; finishing when no trip is
    ongoing changes nothing at all; after `finish` no trip is ongoing, in every state. -/
theorem C17_total (cfg : Config S) (draws : Nat → S) (s : RT S) :
    (RT.init : RT S).ongoing = false ∧ (RT.init : RT S).target = none ∧
    step cfg draws s .qOngoing = (s, Val.bool s.ongoing) ∧
    step cfg draws s .qTarget = (s, Val.pos s.target) ∧
    (s.ongoing = false → finish s = s) ∧
    (finish s).ongoing = false ∧
    (finish s).cmds = s.cmds ∧ (finish s).used = s.used := by
  obtain ⟨c, h, e⟩ := finish_frame s
  exact ⟨rfl, rfl, rfl, rfl, finish_off, by rw [e], by rw [e], by rw [e]⟩

/-- operations that must never make the plugin send anything once no trip is ongoing -/
def passive : Op S → Bool
  | .telemetry _ => true
  | .finish => true
  | .qOngoing => true
  | .qTarget => true
  | .initiate => false
  | .travel => false

/-- number of trip closures in the telemetry chain -/
def tripHandlers (s : RT S) : Nat := ((s.chains .telemetry).filter (fun e => e != Entry.own)).length

section
variable {cfg : Config S} {draws : Nat → S} {u : RT S}

theorem passive_step (hu : TInv cfg draws u) (ho : u.ongoing = false) {op : Op S} (hp : passive op = true) :
    (step cfg draws u op).1.ongoing = false ∧ (step cfg draws u op).1.cmds = u.cmds ∧
    (step cfg draws u op).1.used = u.used := by
  cases op with
  | initiate | travel => cases hp
  | finish =>
    simp only [RandomTrip.step]
    rw [finish_off ho]
    exact ⟨ho, rfl, rfl⟩
  | telemetry pos =>
    simp only [RandomTrip.step]
    rw [telemetry_off pos (hu.off ho).2]
    exact ⟨ho, rfl, rfl⟩
  | qOngoing | qTarget => exact ⟨ho, rfl, rfl⟩

theorem passive_exec (hu : TInv cfg draws u) (ho : u.ongoing = false) (later : List (Op S))
    (hp : ∀ op ∈ later, passive op = true) :
    (exec cfg draws u later).ongoing = false ∧ (exec cfg draws u later).cmds = u.cmds ∧
    (exec cfg draws u later).used = u.used :=
  (exec_induction (fun v => TInv cfg draws v ∧ v.ongoing = false ∧ v.cmds = u.cmds ∧ v.used = u.used)
    ⟨hu, ho, rfl, rfl⟩ later fun _ ⟨hv, hvo, hc, hn⟩ op hop =>
      let ⟨a, b, c⟩ := passive_step hv hvo (hp op hop)
      ⟨tinv_step hv op, a, b.trans hc, c.trans hn⟩).2

end

/-- **Quiet after finish.**  After every history: the number of registered trip handlers is 1 while
    a trip is ongoing and 0 otherwise (so however many times a trip was initiated, at most one
    closure is live, and it is the plugin's current one); hence after `finish`, any further sequence
    of telemetry / finish / queries sends no command and consumes no draw. -/
theorem C17_quiet_after_finish (cfg : Config S) (draws : Nat → S) (ops : List (Op S)) :
    let s := exec cfg draws RT.init ops
    tripHandlers s = (if s.ongoing then 1 else 0) ∧
    (∀ h, s.handler = some h → s.chains .telemetry = [Entry.h h, Entry.own]) ∧
    (∀ later : List (Op S), (∀ op ∈ later, passive op = true) →
      (exec cfg draws (finish s) later).cmds = s.cmds ∧
      (exec cfg draws (finish s) later).used = s.used ∧
      (exec cfg draws (finish s) later).ongoing = false) := by
  intro s
  have inv : TInv cfg draws s := tinv_exec (tinv_init cfg draws) ops
  refine ⟨?_, fun h hh => ?_, fun later hp => ?_⟩
  · cases ho : s.ongoing with
    | true =>
      obtain ⟨h, -, -, -, hc⟩ := inv.on ho
      simp [tripHandlers, hc]
    | false => simp [tripHandlers, (inv.off ho).2]
  · cases ho : s.ongoing with
    | true =>
      obtain ⟨h', -, hh', -, hc⟩ := inv.on ho
      cases hh.symm.trans hh'
      exact hc
    | false => cases hh.symm.trans (inv.off ho).1
  · obtain ⟨c, h, e⟩ := finish_frame s
    obtain ⟨ho, hc, hn⟩ := passive_exec (tinv_finish inv) (by rw [e]) later hp
    exact ⟨hc.trans (by rw [e]), hn.trans (by rw [e]), ho⟩

/-- the draw stream is consumed three at a time, one triple per command, after every history -/
theorem C17_three_draws_per_command (cfg : Config S) (draws : Nat → S) (ops : List (Op S)) :
    (exec cfg draws RT.init ops).used = 3 * (exec cfg draws RT.init ops).cmds.length :=
  (tinv_exec (tinv_init cfg draws) ops).used

/-- non-vacuity (the replay of finding F17b): initiate, initiate, finish, telemetry exactly on the
    last target — over ℝ, unit tolerance — sends nothing beyond the two initial waypoints -/
example :
    let cfg : Config ℝ := ⟨0, 0, 0, 0, 0, 0, 1⟩
    let draws : Nat → ℝ := fun _ => 0
    (exec cfg draws RT.init [.initiate, .initiate, .finish, .telemetry ⟨0, 0, 0⟩]).cmds.length = 2 := by
  -- by evaluation: once the trip is finished no closure is the current one, so the arrival test
  -- over ℝ is never consulted
  rfl

end C17
