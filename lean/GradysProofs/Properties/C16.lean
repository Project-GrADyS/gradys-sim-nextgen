import GradysProofs.Lemmas.MissionInv
/-
  C16 — a mission always targets a valid waypoint and its status flags stay consistent.

  Model: `GradysModel/Mission.lean` (the repaired `MissionMobilityPlugin`).  The theorems quantify over
  every configuration (loop mode, tolerance, speed), every non-empty mission (`Op.valid`; lengths 1
  and 2 are not special-cased anywhere) and every history of start / stop / set-waypoint /
  set-reversed / telemetry calls.
-/

namespace C16
open Mission
variable {S : Type}

/-- the telemetry handler preserves the invariant for EVERY outcome of the reached-test: no property
    of the scalar arithmetic (exactness, rounding direction, NaN handling) is used -/
theorem C16_inv_any_reached (cfg : Config S) (s : State S) (h : MInv cfg s) (r : Bool) :
    MInv cfg (telemetryB cfg s r).1 := (telemetryB_inv h r).1

section
variable [Scalar S]

/-- `MInv` (active ⇒ `0 ≤ wp < len`, not idle, last goto = `mission[wp]`; inactive ⇒ no waypoint,
    idle, not reversed; reversed only in REVERSE mode) holds initially, is preserved by every call,
    hence holds after every history; and no call of such a history raises anything but the plugin's
    own exception. -/
theorem C16_inv (cfg : Config S) :
    MInv cfg (init : State S) ∧
    (∀ (s : State S) (op : Op S), MInv cfg s → op.valid →
      MInv cfg (apply cfg s op).1 ∧ (apply cfg s op).2 ≠ .crash) ∧
    (∀ ops : List (Op S), (∀ op ∈ ops, op.valid) → MInv cfg (run cfg init ops)) :=
  ⟨init_inv cfg, fun _ op h hv => apply_inv h op hv, fun ops hv => run_inv (init_inv cfg) ops hv⟩

/-- the invariant spelled out on the three status properties, after every history:
    idle ⇔ no current waypoint ⇔ no mission; never reversed while idle; reversed only in REVERSE mode;
    while a mission is active the current waypoint is one of its indices. -/
theorem C16_status_consistent (cfg : Config S) (ops : List (Op S)) (hv : ∀ op ∈ ops, op.valid) :
    let s := run cfg init ops
    (s.idle = true ↔ s.wp = none) ∧ (s.wp = none ↔ s.mission = none) ∧
    (s.idle = true → s.reversed = false) ∧ (cfg.loop ≠ .reverse → s.reversed = false) ∧
    (∀ m, s.mission = some m → ∃ i : Nat, s.wp = some (i : Int) ∧ i < m.length) := by
  intro s
  have h : MInv cfg s := run_inv (init_inv cfg) ops hv
  obtain ⟨hmode, ⟨hm, hw, hi, hr⟩ | ⟨m, i, hm, hw, hlt, hi, -⟩⟩ := minv_iff.mp h
  · simp [hm, hw, hi, hr]
  · refine ⟨by simp [hw, hi], by simp [hw, hm], by simp [hi], hmode, fun m' hm' => ?_⟩
    cases hm.symm.trans hm'
    exact ⟨i, hw, hlt⟩

/-- while a mission is active, the last goto command the plugin issued went to exactly
    `mission[current_waypoint]` — after every history -/
theorem C16_last_command_is_goto_current (cfg : Config S) (ops : List (Op S))
    (hv : ∀ op ∈ ops, op.valid) :
    let s := run cfg init ops
    ∀ m, s.mission = some m →
      ∃ (i : Nat) (p : V3 S), s.wp = some (i : Int) ∧ m[i]? = some p ∧ lastGoto s.log = some p := by
  intro s m hm
  obtain ⟨i, hw, hi, -, hg⟩ := (run_inv (init_inv cfg) ops hv : MInv cfg s).flying hm
  exact ⟨i, m[i], hw, List.getElem?_eq_getElem hi, by rw [hg, List.getElem?_eq_getElem hi]⟩

end

/-- `set_current_waypoint` is refused exactly when there is no mission or the index is out of bounds,
    `set_reversed` exactly when there is no mission or the mode is not REVERSE; start and the telemetry
    handler are never refused (`stop_mission` cannot fail at all: `apply` returns `ok` for it); a refused
    call leaves the plugin — fields and command log — exactly as it was.
    (No invariant is needed: this holds in every state.) -/
theorem C16_errors_noop (cfg : Config S) (s : State S) :
    (∀ i, (setWaypoint s i).2 = .refused ↔
      (s.mission = none ∨ ∃ m, s.mission = some m ∧ (i < 0 ∨ (m.length : Int) ≤ i))) ∧
    (∀ b, (setReversed cfg s b).2 = .refused ↔ (s.mission = none ∨ cfg.loop ≠ .reverse)) ∧
    (∀ i, (setWaypoint s i).2 = .refused → (setWaypoint s i).1 = s) ∧
    (∀ b, (setReversed cfg s b).2 = .refused → (setReversed cfg s b).1 = s) ∧
    (∀ m, (start cfg s m).2 ≠ .refused) ∧ (∀ r, (telemetryB cfg s r).2 ≠ .refused) := by
  cases hm : s.mission with
  | none => simp [setWaypoint_none hm, setReversed_none hm, telemetryB_none hm, start_ne_refused]
  | some m =>
    have hW := fun i => refused_of_guard (setWaypoint_some hm i) (outOf_ne_refused _)
    have hR := fun b => refused_of_guard (setReversed_some (cfg := cfg) hm b) (by
      split
      · nofun
      · exact outOf_ne_refused _)
    refine ⟨fun i => (hW i).1.trans (by simp), fun b => (hR b).1.trans (by simp), fun i => (hW i).2,
      fun b => (hR b).2, start_ne_refused cfg s, fun r => ?_⟩
    cases r with
    | false => rw [telemetryB_false]; nofun
    | true => rw [telemetryB_true hm]; exact outOf_ne_refused _

section
variable [Scalar S]

/-- the same at the level of the public calls: whatever call is refused, nothing changed -/
theorem C16_errors_noop_apply (cfg : Config S) (s : State S) (op : Op S)
    (h : (apply cfg s op).2 = .refused) : (apply cfg s op).1 = s := by
  obtain ⟨-, -, hW, hR, hstart, htel⟩ := C16_errors_noop cfg s
  cases op with
  | start m => exact absurd h (hstart m)
  | stop => simp [apply] at h
  | setWaypoint i => exact hW i h
  | setReversed b => exact hR b h
  | telemetry pos => exact absurd h (htel _)

end

/-- the loop modes, as equations for `Mission.next` (the function the theorems below refer to):
    NO: `i ↦ i+1`, the mission ends after the last waypoint; RESTART: `i ↦ (i+1) mod len`;
    REVERSE: one step in the current direction; at the last waypoint turn round to `len−2`
    (`0` for a single waypoint); at the first waypoint start over: waypoint 0 again, forwards. -/
theorem C16_next_rules (n i : Nat) :
    next .no n i false = (if i + 1 < n then some (i + 1, false) else none) ∧
    next .restart n i false = some ((i + 1) % n, false) ∧
    next .reverse n i false = (if i + 1 < n then some (i + 1, false) else some (n - 2, true)) ∧
    next .reverse n i true = (if 0 < i then some (i - 1, true) else some (0, false)) ∧
    next .reverse 1 0 false = some (0, true) := by
  simp [next]

/-- a telemetry that does not reach the current waypoint (or arrives while no mission is active) changes
    nothing; one that reaches waypoint `i` moves the index as `next` says, keeps everything else, and
    issues exactly one command, the goto to the new waypoint; when `next` ends the mission the plugin
    is stopped and no command is issued. -/
theorem C16_visit_order (cfg : Config S) (s : State S) (h : MInv cfg s) :
    telemetryB cfg s false = (s, .ok) ∧
    (s.mission = none → ∀ r, telemetryB cfg s r = (s, .ok)) ∧
    (∀ m (i : Nat), s.mission = some m → s.wp = some (i : Int) →
      (next cfg.loop m.length i s.reversed = none →
        telemetryB cfg s true = (stopMission s, .ok)) ∧
      (∀ j r, next cfg.loop m.length i s.reversed = some (j, r) → ∃ p, m[j]? = some p ∧
        telemetryB cfg s true =
          ({ s with wp := some (j : Int), reversed := r, log := .goto p :: s.log }, .ok))) := by
  refine ⟨telemetryB_false cfg s, telemetryB_none, fun m i hm hw => ?_⟩
  obtain ⟨_, hw', hi, -, -⟩ := h.flying hm
  cases hw'.symm.trans hw
  rw [telemetryB_true hm]
  exact advance_eq hm hw hi h.pre.mode

/-- `set_reversed` in REVERSE mode with a mission: the same value changes nothing; a new value takes
    effect at once — the target moves one step in the NEW direction by the same rule, with its goto. -/
theorem C16_set_reversed_steps (cfg : Config S) (s : State S) (h : MInv cfg s)
    (hl : cfg.loop = .reverse) (m : List (V3 S)) (i : Nat) (hm : s.mission = some m)
    (hw : s.wp = some (i : Int)) (b : Bool) :
    (b = s.reversed → setReversed cfg s b = (s, .ok)) ∧
    (b ≠ s.reversed → ∀ j r, next .reverse m.length i b = some (j, r) → ∃ p, m[j]? = some p ∧
      setReversed cfg s b = ({ s with wp := some (j : Int), reversed := r, log := .goto p :: s.log }, .ok)) := by
  obtain ⟨_, hw', hi, -, -⟩ := h.flying hm
  cases hw'.symm.trans hw
  rw [setReversed_some hm, if_neg fun hne => hne hl]
  refine ⟨fun hb => by rw [if_pos hb, hb], fun hb j r hn => ?_⟩
  rw [if_neg hb]
  exact (advance_eq (s := { s with reversed := b }) hm hw hi fun hne => absurd hl hne).2 j r (hl ▸ hn)

/-- a valid `set_current_waypoint(i)` makes `i` the current waypoint, keeps the direction, and issues the
    goto to `mission[i]`; `start_mission(m)` targets waypoint 0, forwards, and issues goto then speed -/
theorem C16_set_waypoint_and_start (cfg : Config S) (s : State S) :
    (∀ m (i : Nat), s.mission = some m → i < m.length → ∃ p, m[i]? = some p ∧
      setWaypoint s (i : Int) = ({ s with wp := some (i : Int), log := .goto p :: s.log }, .ok)) ∧
    (∀ m, m ≠ [] → ∃ p, m[0]? = some p ∧
      start cfg s m = (⟨some m, some 0, false, false, .setSpeed cfg.speed :: .goto p :: s.log⟩, .ok)) :=
  ⟨fun _ _ hm hi => setWaypoint_eq hm hi, fun _ hm => start_eq cfg s hm⟩

/-- the parsing loop returns the positions written in the file, in the order of its lines - and nothing
    else: the result depends on this file only, not on any file loaded before, by this plugin or another -/
theorem C16_file_mission_is_the_file (lines : List (V3 S)) : readWaypoints lines = lines := by
  -- appending one by one is a `flatMap` of singletons
  rw [readWaypoints, List.foldl_append_eq_append, List.nil_append, ← List.flatMap_def,
    List.flatMap_singleton']

/-- `start_mission_with_waypoint_file` is `start_mission` of the file's positions in EVERY state (first
    load or re-planning, whatever mission was flown before): for a non-empty file the mission is the
    file, waypoint 0 of the file is targeted, forwards, with its goto and the speed command; so every
    clause proved for `start` histories holds for histories with file-based starts. -/
theorem C16_file_start (cfg : Config S) (s : State S) (lines : List (V3 S)) :
    startFile cfg s lines = start cfg s lines ∧
    (lines ≠ [] → ∃ p, lines[0]? = some p ∧
      startFile cfg s lines =
        (⟨some lines, some 0, false, false, .setSpeed cfg.speed :: .goto p :: s.log⟩, .ok)) := by
  have e : startFile cfg s lines = start cfg s lines := by
    simp [startFile, C16_file_mission_is_the_file]
  exact ⟨e, fun hne => e ▸ start_eq cfg s hne⟩

section
variable [Scalar S]

/-- what "reached" means on a state satisfying the invariant: the tolerance test against the CURRENT
    waypoint, `squared_distance(pos, mission[wp]) <= tolerance ** 2`; and the telemetry call is the
    handler applied to that answer -/
theorem C16_reached_is_tolerance_test (cfg : Config S) (s : State S) (pos : V3 S) :
    apply cfg s (.telemetry pos) = telemetryB cfg s (reached cfg s pos) ∧
    (∀ m (i : Nat) p, s.mission = some m → s.wp = some (i : Int) → m[i]? = some p →
      reached cfg s pos = Scalar.le (V3.sqdist pos p) (Scalar.sq cfg.tol)) := by
  refine ⟨rfl, fun m i p hm hw hp => ?_⟩
  simp [reached, hw, hm, pyGet_natCast, hp]

end

section Fleet
variable [Scalar S]

/-- a call on member `who` leaves every other member - fields and command log - exactly as it was -/
theorem C16_fleet_others_untouched (f : List (Member S)) (who j : Nat) (op : Op S) (h : j ≠ who) :
    (applyAt f who op).1[j]? = f[j]? := by
  unfold applyAt
  cases hw : f[who]? with
  | none => rfl
  | some m => simp [List.getElem?_set_ne (Ne.symm h)]

/-- the member that is called makes exactly the step of a plugin alone, with its own configuration -/
theorem C16_fleet_called_member (f : List (Member S)) (who : Nat) (op : Op S) (m : Member S)
    (hm : f[who]? = some m) :
    (applyAt f who op).1[who]? = some ⟨m.cfg, (apply m.cfg m.st op).1⟩ ∧
    (applyAt f who op).2 = (apply m.cfg m.st op).2 := by
  obtain ⟨hlt, rfl⟩ := List.getElem?_eq_some_iff.mp hm
  simp [applyAt, hlt]

/-- after ANY interleaved history every member is in the state its own calls alone lead to -/
theorem C16_fleet_projection (f : List (Member S)) (ops : List (Nat × Op S)) (i : Nat) :
    (runFleet f ops)[i]? = f[i]?.map (fun m => ⟨m.cfg, run m.cfg m.st (callsOn i ops)⟩) := by
  induction ops generalizing f with
  | nil =>
    show f[i]? = _
    cases f[i]? <;> rfl
  | cons o ops ih =>
    rw [show runFleet f (o :: ops) = runFleet (applyAt f o.1 o.2).1 ops from rfl, ih]
    by_cases hi : o.1 = i
    · -- a call on `i`: the head of `i`'s own calls
      subst hi
      cases hm : f[o.1]? with
      | none => simp [applyAt, hm]
      | some m => simp [(C16_fleet_called_member f _ o.2 m hm).1, callsOn, run]
    · -- a call on another member: not among `i`'s calls, and `i` is untouched
      rw [C16_fleet_others_untouched f o.1 i o.2 (Ne.symm hi)]
      simp [callsOn, hi]

/-- C16's invariant for every member of a fleet of freshly constructed plugins after every
    interleaved history of valid calls; the member still has the configuration it was constructed
    with and its state is the one of a single plugin that received this member's calls -/
theorem C16_fleet_inv (cfgs : List (Config S)) (ops : List (Nat × Op S)) (hv : ∀ o ∈ ops, o.2.valid)
    (i : Nat) (m : Member S) (h : (runFleet (fleetInit cfgs) ops)[i]? = some m) :
    MInv m.cfg m.st ∧ cfgs[i]? = some m.cfg ∧ m.st = run m.cfg init (callsOn i ops) := by
  rw [C16_fleet_projection] at h
  cases hc : cfgs[i]? with
  | none => simp [fleetInit, hc] at h
  | some c =>
    simp only [fleetInit, List.getElem?_map, hc, Option.map_some, Option.some.injEq] at h
    subst h
    refine ⟨run_inv (init_inv c) _ fun op hop => ?_, rfl, rfl⟩
    obtain ⟨o, ho, rfl⟩ := List.mem_map.mp hop
    exact hv o (List.mem_filter.mp ho).1

end Fleet

/-- negative witness for finding F16.  REVERSE mode, a mission of ONE waypoint, one telemetry that reaches
    it: with the pinned bounce `len − 2` the current waypoint becomes `−1` and the invariant is broken
    (the plugin then reports `current_waypoint == -1`); with the repaired `max(len − 2, 0)` it is `0`. -/
theorem C16_pinned_bounce_gives_minus_one :
    let cfg : Config Nat := ⟨5, .reverse, 1⟩
    let s1 : State Nat := (start cfg init [⟨7, 7, 7⟩]).1
    (telemetryWith bouncePinned cfg s1 true).1.wp = some (-1) ∧
    ¬ Pre cfg (telemetryWith bouncePinned cfg s1 true).1 ∧
    (telemetryB cfg s1 true).1.wp = some 0 ∧ (telemetryB cfg s1 true).1.reversed = true := by
  refine ⟨by decide, ?_, by decide, by decide⟩
  intro h
  obtain ⟨w, hw, h0, -⟩ := h.active _ rfl
  cases hw
  exact absurd h0 (by decide)

section Examples

/-- the integer lattice as a scalar type (only what `reached` uses is meaningful) -/
local instance latticeScalar : Scalar Int where
  ofInt := id
  add := (· + ·)
  sub := (· - ·)
  mul := (· * ·)
  div := (· / ·)
  neg := fun x => -x
  sq := fun x => x * x
  sqrt := id
  sin := id
  cos := id
  acos? := fun _ => none
  atan2 := fun x _ => x
  radians := id
  le := fun a b => decide (a ≤ b)
  lt := fun a b => decide (a < b)

private def A : V3 Int := ⟨0, 0, 0⟩
private def B : V3 Int := ⟨10, 0, 0⟩
private def C : V3 Int := ⟨20, 0, 0⟩
private def rev3 : Config Int := ⟨5, .reverse, 2⟩

/-- REVERSE, three waypoints: forward to the end, bounce to 1, back to 0, start over at 0, then 1;
    telemetry exactly on the tolerance sphere counts as reached, one unit outside does not -/
example : (run rev3 init [.start [A, B, C], .telemetry ⟨2, 0, 0⟩, .telemetry B, .telemetry C]).wp = some 1 ∧
    (run rev3 init [.start [A, B, C], .telemetry A, .telemetry B, .telemetry C]).reversed = true ∧
    (run rev3 init [.start [A, B, C], .telemetry ⟨3, 0, 0⟩]).wp = some 0 ∧
    (run rev3 init [.start [A, B, C], .telemetry A, .telemetry B, .telemetry C, .telemetry B, .telemetry A]).wp = some 0 ∧
    (run rev3 init [.start [A, B, C], .telemetry A, .telemetry B, .telemetry C, .telemetry B, .telemetry A]).reversed = false := by
  decide

/-- the hypotheses of `C16_visit_order` are satisfiable with every branch of `next` taken, and refusals occur -/
example : (apply rev3 (run rev3 init [.start [A, B, C]]) (.setWaypoint 3)).2 = .refused ∧
    (apply rev3 init (.setReversed true)).2 = .refused ∧
    (apply (⟨5, .no, 2⟩ : Config Int) (run ⟨5, .no, 2⟩ init [.start [A]]) (.setReversed true)).2 = .refused ∧
    (run (⟨5, .no, 2⟩ : Config Int) init [.start [A], .telemetry A]).idle = true ∧
    (run (⟨5, .restart, 2⟩ : Config Int) init [.start [A, B], .telemetry A, .telemetry B]).wp = some 0 ∧
    (run rev3 init [.start [A], .telemetry A]).wp = some 0 := by
  decide

/-- the command log after a bounce: newest first -/
example : lastGoto (run rev3 init [.start [A, B, C], .telemetry A, .telemetry B, .telemetry C]).log = some B := by
  decide

/-- re-planning from a second file: the mission is the second file alone (2 positions), its waypoint 0 is
    targeted, and index 2 - valid in the 3-line file loaded before - is refused -/
example :
    let s := (startFile rev3 (startFile rev3 init [A, B, C]).1 [C, B]).1
    s.mission = some [C, B] ∧ s.wp = some 0 ∧ lastGoto s.log = some C ∧ (setWaypoint s 2).2 = .refused := by
  decide

/-- two plugins at once, RESTART and REVERSE on different missions, calls interleaved: each follows its own
    mission (member 1 is sent to ITS waypoint 1, `C`, not to member 0's `B`), a member that is not called does
    not move, and the hypothesis of `C16_fleet_inv` is satisfiable -/
example :
    let f := runFleet (fleetInit [(⟨5, .restart, 2⟩ : Config Int), rev3])
      [(0, .start [A, B]), (1, .start [B, C]), (0, .telemetry A), (1, .telemetry B), (0, .telemetry B)]
    (f[0]?.map (fun m => (m.st.wp, lastGoto m.st.log))) = some (some 0, some A) ∧
    (f[1]?.map (fun m => (m.st.wp, m.st.reversed, lastGoto m.st.log))) = some (some 1, false, some C) := by
  decide

end Examples

end C16
