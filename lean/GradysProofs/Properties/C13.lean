import GradysProofs.Lemmas.NonInterfDur
/-
  C13 — unique identities; nodes affect each other only through messages.

  Method: unwinding.  `ViewEq x w₁ w₂` (Lemmas/NonInterf.lean) is the view of the nodes other than
  `x`; what a silent `x` does is invisible in it (U1), an event not owned by `x` acts congruently on
  it (U2), so along two runs it is a function of the number of executed events not owned by `x`.

  Guards, explicit: timer identifiers are per node in the model (`World.nextTimer : NodeId → Nat`;
  the code's single counter is an injective, never observable renaming); the clock `loop.now` is
  GLOBAL and is NOT in the view, nor are `iter`, `nextSeq`, `raccepted`, `rexecuted`; `x` uses no
  shared random generator and no camera.

  The FULL literal statement is false in the model exactly as in the code (finding F13) and is
  kept here, unproved:

    theorem C13_noninterference (cfg : Config S) (P₁ P₂ : NodeId → Proto S σ) (x : NodeId)
        (hs₁ : Silent x P₁) (hs₂ : Silent x P₂) (hP : ∀ n, n ≠ x → P₁ n = P₂ n) (fuel : Nat) :
        ptrace x (start cfg P₁ fuel (init cfg P₁)) = ptrace x (start cfg P₂ fuel (init cfg P₂)) ∧
        ∀ n, n ≠ x → (start cfg P₁ fuel (init cfg P₁)).pos n = (start cfg P₂ fuel (init cfg P₂)).pos n

  Two channels other than messages refute it (`C13_shared_bounds_witness` below):
   1. the `afterStep` / `max_iterations` budget: `iter` counts the events of ALL nodes, so extra
      events of `x` use up the budget of the others;
   2. the clock value read inside `finish`: `_finalize_simulation` runs when the queue is exhausted or
      the bound is hit, and `current_time()` is then the time of the last event of ANY node.
  What is proved instead: `C13_noninterference_partial` (runs without bounds, up to but excluding
  finalisation) and `C13_noninterference_duration` (completed runs under a `duration` bound and no
  iteration limit, finalisation included); their docstrings say what each claims.
-/
set_option linter.unusedSectionVars false

namespace C13
open Sim
variable {S σ : Type} [Scalar S]

theorem runProg_pstate (cfg : Config S) (n : NodeId) (p : Prog S σ) (w : World S σ) :
    (runProg cfg n p w).1.pstate = w.pstate := by
  induction p generalizing w with
  | done s => rfl
  | req r k ih => rw [runProg_req, ih]; exact ((ReqFrame.prims cfg).execReq n r w).pstate

theorem callback_pstate_other (cfg : Config S) (P : NodeId → Proto S σ) (n m : NodeId)
    (cb : Callback S) (w : World S σ) (hm : m ≠ n) :
    (callback cfg P n cb w).pstate m = w.pstate m := by
  rw [callback_eq]
  exact (upd_ne _ _ _ hm).trans (congrFun (runProg_pstate cfg n _ _) m)

/-- the node set is `0, 1, …, nNodes-1`, pairwise distinct, the i-th added node has id `i`; a
    callback for node `n` runs program instance `P n` on `n`'s own local state with id argument `n`,
    and writes the local state of `n` only -/
theorem C13_ids (cfg : Config S) (P : NodeId → Proto S σ) :
    (List.range cfg.nNodes).Nodup ∧
    (∀ i, i < cfg.nNodes → (List.range cfg.nNodes)[i]? = some i) ∧
    (∀ n cb (w : World S σ), callback cfg P n cb w =
      { (runProg cfg n ((P n).react (w.pstate n) n (reportedTime cfg w) cb)
          (log (.callback n cb (reportedTime cfg w)) w)).1 with
        pstate := upd (runProg cfg n ((P n).react (w.pstate n) n (reportedTime cfg w) cb)
          (log (.callback n cb (reportedTime cfg w)) w)).1.pstate n
          (runProg cfg n ((P n).react (w.pstate n) n (reportedTime cfg w) cb)
          (log (.callback n cb (reportedTime cfg w)) w)).2 }) ∧
    (∀ n m cb (w : World S σ), m ≠ n → (callback cfg P n cb w).pstate m = w.pstate m) :=
  ⟨List.nodup_range, fun i hi => by simp [hi], callback_eq cfg P, callback_pstate_other cfg P⟩

/-- frame lemmas in one statement: a node-scoped request (`setTimer`, `cancelTimer`, `goto`,
    `gotoGeo`, `setSpeed`, `setRange`) by `x` changes only components owned by `x`: it is skipped, or
    served by `Sim.effect`, case by case in `Sim.hid_effect`. -/
theorem C13_frames (cfg : Config S) (x : NodeId) (r : Request S) (hr : r.isMsg = false)
    (w : World S σ) : ViewEq x w (execReq cfg x r w).1 := (hid_execReq cfg x r hr w).view

theorem C13_silent_program_invisible (cfg : Config S) (x : NodeId) (p : Prog S σ) (hp : p.silent)
    (w : World S σ) : ViewEq x w (runProg cfg x p w).1 := (hid_runProg cfg x p hp w).view

/-- U1a: a callback of the silent node `x` is invisible to the others -/
theorem C13_silent_callback_invisible (cfg : Config S) (P : NodeId → Proto S σ) (x : NodeId)
    (hs : Silent x P) (cb : Callback S) (w : World S σ) : ViewEq x w (callback cfg P x cb w) :=
  (hid_callback cfg P x hs cb w).view

/-- U1: popping and executing an event owned by the silent node `x` is invisible to the others -/
theorem C13_owned_event_invisible (cfg : Config S) (P : NodeId → Proto S σ) (x : NodeId)
    (hs : Silent x P) (e : Ev (EvKind S)) (rest : List (Ev (EvKind S))) (w : World S σ)
    (hq : w.loop.queue = e :: rest) (he : e.kind.owner = some x) :
    ViewEq x w (execEv cfg P e (popped e rest w)) :=
  viewEq_execEv_owned cfg P x hs e (xowned_iff.mpr he) rest w hq

/-- U2 (step consistency): an event NOT owned by `x`, executed at the same clock in two worlds with
    equal views and queues sorted by time, by programs that agree off `x`, leaves the views equal -/
theorem C13_step_consistency (cfg : Config S) (P₁ P₂ : NodeId → Proto S σ) (x : NodeId)
    (hP : ∀ n, n ≠ x → P₁ n = P₂ n) (e : Ev (EvKind S)) (he : e.kind.owner ≠ some x)
    (w₁ w₂ : World S σ) (hv : ViewEq x w₁ w₂) (hnow : w₁.loop.now = w₂.loop.now)
    (hs₁ : w₁.loop.queue.Pairwise (fun a b => a.ts ≤ b.ts))
    (hs₂ : w₂.loop.queue.Pairwise (fun a b => a.ts ≤ b.ts)) :
    ViewEq x (execEv cfg P₁ e w₁) (execEv cfg P₂ e w₂) :=
  (cong_execEv cfg P₁ P₂ hP e e rfl (xowned_eq_false_iff.mpr he) ⟨hv, hnow, hs₁, hs₂⟩).view

/-- MAIN THEOREM: two runs from freshly built and initialised simulations with the same
    configuration, whose programs agree off the silent node `x`; after any numbers `k₁`, `k₂` of
    executed events, if the numbers of executed events NOT owned by `x` coincide then so do the views
    of the nodes other than `x` -/
theorem C13_view_function_of_visible_count (cfg : Config S) (hdt : 0 ≤ cfg.dt)
    (P₁ P₂ : NodeId → Proto S σ) (x : NodeId) (hs₁ : Silent x P₁) (hs₂ : Silent x P₂)
    (hP : ∀ n, n ≠ x → P₁ n = P₂ n) (k₁ k₂ : Nat)
    (hc : visCount x (evSteps cfg P₁ k₁ (start0 cfg P₁)) = visCount x (evSteps cfg P₂ k₂ (start0 cfg P₂))) :
    ViewEq x (evSteps cfg P₁ k₁ (start0 cfg P₁)) (evSteps cfg P₂ k₂ (start0 cfg P₂)) :=
  view_of_visCount_start0 cfg ⟨hs₁, hs₂, hP⟩ hdt k₁ k₂ hc

/-- the event-level runs are the runs of `step_simulation` when neither `duration` nor
    `max_iterations` is set, up to the call at which the queue runs empty -/
theorem C13_evSteps_is_steps (cfg : Config S) (hdt : 0 ≤ cfg.dt) (hd : cfg.duration = none)
    (hm : cfg.maxIter = none) (P : NodeId → Proto S σ) (k : Nat)
    (hq : ∀ j, j ≤ k + 1 → (evSteps cfg P j (start0 cfg P)).loop.queue ≠ []) :
    steps cfg P (k + 1) (init cfg P) = evSteps cfg P (k + 1) (start0 cfg P) :=
  steps_eq_evSteps_live cfg P k fun j hj =>
    Bool.eq_false_iff.mpr fun h => hq j (Nat.le_of_lt_succ hj) (queue_nil_of_isDone cfg hd hm h)

/-- NON-INTERFERENCE (partial: no iteration budget, clock read in `finish` excluded). For all
    numbers of executed events the traces projected on the nodes other than `x` (their callbacks with
    payloads and reported times, their requests with outcomes) are prefix-comparable; at equal
    visible counts they are equal, and so are the positions of all nodes other than `x`. -/
theorem C13_noninterference_partial (cfg : Config S) (hdt : 0 ≤ cfg.dt)
    (P₁ P₂ : NodeId → Proto S σ) (x : NodeId) (hs₁ : Silent x P₁) (hs₂ : Silent x P₂)
    (hP : ∀ n, n ≠ x → P₁ n = P₂ n) (k₁ k₂ : Nat) :
    (ptrace x (evSteps cfg P₁ k₁ (start0 cfg P₁)) <+: ptrace x (evSteps cfg P₂ k₂ (start0 cfg P₂)) ∨
     ptrace x (evSteps cfg P₂ k₂ (start0 cfg P₂)) <+: ptrace x (evSteps cfg P₁ k₁ (start0 cfg P₁))) ∧
    (visCount x (evSteps cfg P₁ k₁ (start0 cfg P₁)) = visCount x (evSteps cfg P₂ k₂ (start0 cfg P₂)) →
      ptrace x (evSteps cfg P₁ k₁ (start0 cfg P₁)) = ptrace x (evSteps cfg P₂ k₂ (start0 cfg P₂)) ∧
      ∀ n, n ≠ x → (evSteps cfg P₁ k₁ (start0 cfg P₁)).pos n = (evSteps cfg P₂ k₂ (start0 cfg P₂)).pos n) := by
  have tw : Twin x P₁ P₂ := ⟨hs₁, hs₂, hP⟩
  refine ⟨(Nat.le_total _ _).imp (ptrace_prefix_of_visCount_le cfg tw hdt k₁ k₂)
    (ptrace_prefix_of_visCount_le cfg tw.symm hdt k₂ k₁), fun hc => ?_⟩
  have hv := view_of_visCount_start0 cfg tw hdt k₁ k₂ hc
  exact ⟨hv.ptrace_eq, hv.pos⟩

/-- node `x` replaced by the program that does nothing -/
def mute (P : NodeId → Proto S σ) (x : NodeId) : NodeId → Proto S σ :=
  fun n => if n = x then { init := (P x).init, react := fun s _ _ _ => .done s } else P n

theorem mute_silent (P : NodeId → Proto S σ) (x : NodeId) : Silent x (mute P x) := by
  intro s t cb
  simp [mute, Prog.silent]

theorem mute_agree (P : NodeId → Proto S σ) (x : NodeId) : ∀ n, n ≠ x → P n = mute P x n := by
  intro n hn
  simp [mute, hn]

/-- in particular: whatever node-scoped requests the silent node `x` issues from whatever
    callbacks, the others observe what they observe when `x` does nothing at all -/
theorem C13_noninterference_partial_vs_idle (cfg : Config S) (hdt : 0 ≤ cfg.dt)
    (P : NodeId → Proto S σ) (x : NodeId) (hs : Silent x P) (k₁ k₂ : Nat) :
    (ptrace x (evSteps cfg P k₁ (start0 cfg P)) <+:
        ptrace x (evSteps cfg (mute P x) k₂ (start0 cfg (mute P x))) ∨
     ptrace x (evSteps cfg (mute P x) k₂ (start0 cfg (mute P x))) <+:
        ptrace x (evSteps cfg P k₁ (start0 cfg P))) ∧
    (visCount x (evSteps cfg P k₁ (start0 cfg P)) =
        visCount x (evSteps cfg (mute P x) k₂ (start0 cfg (mute P x))) →
      ptrace x (evSteps cfg P k₁ (start0 cfg P)) =
        ptrace x (evSteps cfg (mute P x) k₂ (start0 cfg (mute P x))) ∧
      ∀ n, n ≠ x → (evSteps cfg P k₁ (start0 cfg P)).pos n =
        (evSteps cfg (mute P x) k₂ (start0 cfg (mute P x))).pos n) :=
  C13_noninterference_partial cfg hdt P (mute P x) x hs (mute_silent P x) (mute_agree P x) k₁ k₂

/-! ### completed runs under a duration bound

  `cfg.duration` is arbitrary (`some D`, or `none`: the run then ends when the queue is exhausted). -/

/-- generalisation of `C13_evSteps_is_steps` to ANY bounds: as long as `is_simulation_done` has not
    held (`Live`: none of the event-level worlds `0 … k+1` is done), `k+1` calls of `step_simulation`
    on a freshly built simulation are initialisation followed by `k+1` event-level steps -/
theorem C13_steps_is_evSteps_until_done (cfg : Config S) (hdt : 0 ≤ cfg.dt) (P : NodeId → Proto S σ)
    (k : Nat) (hl : ∀ j, j < k + 2 → isDone cfg (evSteps cfg P j (start0 cfg P)) = false) :
    steps cfg P (k + 1) (init cfg P) = evSteps cfg P (k + 1) (start0 cfg P) :=
  steps_eq_evSteps_live cfg P k hl

/-- a COMPLETED run is the finalisation of the event-level run after exactly `k` events, `k` being
    the first count at which `is_simulation_done` holds (any bounds) -/
theorem C13_completed_run (cfg : Config S) (hdt : 0 ≤ cfg.dt) (P : NodeId → Proto S σ) (n : Nat)
    (hfin : (steps cfg P n (init cfg P)).finalized = true) :
    ∃ k, (∀ j, j < k → isDone cfg (evSteps cfg P j (start0 cfg P)) = false) ∧
      isDone cfg (evSteps cfg P k (start0 cfg P)) = true ∧
      steps cfg P n (init cfg P) = finalise cfg P (evSteps cfg P k (start0 cfg P)) :=
  completed_run cfg P n hfin

/-- without an iteration limit, two runs that differ only in the silent node `x` have executed THE
    SAME NUMBER OF EVENTS NOT OWNED BY `x` when they complete, and their worlds just before
    finalisation look the same to the others (clocks apart) -/
theorem C13_view_before_finalisation (cfg : Config S) (hm : cfg.maxIter = none) (hdt : 0 ≤ cfg.dt)
    (P₁ P₂ : NodeId → Proto S σ) (x : NodeId) (hs₁ : Silent x P₁) (hs₂ : Silent x P₂)
    (hP : ∀ n, n ≠ x → P₁ n = P₂ n) (k₁ k₂ : Nat)
    (hl₁ : ∀ j, j < k₁ → isDone cfg (evSteps cfg P₁ j (start0 cfg P₁)) = false)
    (hd₁ : isDone cfg (evSteps cfg P₁ k₁ (start0 cfg P₁)) = true)
    (hl₂ : ∀ j, j < k₂ → isDone cfg (evSteps cfg P₂ j (start0 cfg P₂)) = false)
    (hd₂ : isDone cfg (evSteps cfg P₂ k₂ (start0 cfg P₂)) = true) :
    visCount x (evSteps cfg P₁ k₁ (start0 cfg P₁)) = visCount x (evSteps cfg P₂ k₂ (start0 cfg P₂)) ∧
    ViewEq x (evSteps cfg P₁ k₁ (start0 cfg P₁)) (evSteps cfg P₂ k₂ (start0 cfg P₂)) :=
  have hc := visCount_eq_of_done cfg ⟨hs₁, hs₂, hP⟩ hm hdt k₁ k₂ hl₁ hd₁ hl₂ hd₂
  ⟨hc, view_of_visCount_start0 cfg ⟨hs₁, hs₂, hP⟩ hdt k₁ k₂ hc⟩

/-- the structure of the two complete projected traces: a COMMON part `A` without any `finish`
    callback (everything up to finalisation: callbacks with payloads and reported times, requests with
    outcomes), followed in each run by the `finish` blocks of the nodes other than `x` in node order
    (`FinBlocks`) -/
theorem C13_noninterference_duration_blocks (cfg : Config S) (hm : cfg.maxIter = none)
    (hdt : 0 ≤ cfg.dt) (P₁ P₂ : NodeId → Proto S σ) (x : NodeId) (hs₁ : Silent x P₁)
    (hs₂ : Silent x P₂) (hP : ∀ n, n ≠ x → P₁ n = P₂ n) (n₁ n₂ : Nat) (w₁ w₂ : World S σ)
    (hw₁ : w₁ = steps cfg P₁ n₁ (init cfg P₁)) (hw₂ : w₂ = steps cfg P₂ n₂ (init cfg P₂))
    (hf₁ : w₁.finalized = true) (hf₂ : w₂.finalized = true) :
    ∃ A F₁ F₂, ptrace x w₁ = A ++ F₁ ∧ ptrace x w₂ = A ++ F₂ ∧ (∀ o ∈ A, o.isFinish = false) ∧
      FinBlocks x (List.range cfg.nNodes) F₁ ∧ FinBlocks x (List.range cfg.nNodes) F₂ := by
  subst hw₁ hw₂
  obtain ⟨k₁, k₂, e₁, e₂, hv⟩ := completed_views cfg ⟨hs₁, hs₂, hP⟩ hm hdt n₁ n₂ hf₁ hf₂
  obtain ⟨F₁, hF₁, hB₁⟩ := ptrace_finalise cfg P₁ x _ (evSteps_flags cfg P₁ k₁).2
  obtain ⟨F₂, hF₂, hB₂⟩ := ptrace_finalise cfg P₂ x _ (evSteps_flags cfg P₂ k₂).2
  exact ⟨_, F₁, F₂, by rw [e₁, hF₁], by rw [e₂, hF₂, hv.ptrace_eq], evSteps_noFinish cfg P₁ x k₁,
    hB₁, hB₂⟩

/-- NON-INTERFERENCE FOR COMPLETED RUNS UNDER A DURATION (no iteration limit): what
    `Simulator.start_simulation` does, which makes some number of `step_simulation` calls
    (`Sim.start_eq_steps`).  Two runs with the same configuration whose programs agree off
    the silent node `x`, both completed (`finalized`), after whatever numbers of `step_simulation`
    calls.  Then, for the nodes other than `x`:
     1. everything they observe BEFORE THE FIRST `finish` CALLBACK is the same in both runs:
        callbacks with payloads and reported times, requests with outcomes (`beforeFinish`);
     2. in both runs the `finish` callbacks are those of every node `n ≠ x`, once each, in node order;
     3. their positions agree;
     4. if moreover the `finish` reaction of every `n ≠ x` is clock free (`FinishClockFree`: it does
        not depend on the time it is given, and issues no `schedule_timer`, whose outcome tests the
        clock), the COMPLETE projected traces agree up to the time reported to `finish`
        (`Obs.eraseFinishTime`): same `finish` callbacks, same requests inside them, same outcomes.
    Formulation chosen: 1–3 are unconditional and exclude what happens inside `finish`; 4 states the
    literal "equal except for the `finish` time" under a hypothesis on the programs neither half of
    which can be dropped: the clock read in `finish` is the second shared channel of F13
    (`C13_shared_bounds_witness`), and it is read through the time argument AND through
    `schedule_timer` (`C13_finish_setTimer_witness`). -/
theorem C13_noninterference_duration (cfg : Config S) (hm : cfg.maxIter = none) (hdt : 0 ≤ cfg.dt)
    (P₁ P₂ : NodeId → Proto S σ) (x : NodeId) (hs₁ : Silent x P₁) (hs₂ : Silent x P₂)
    (hP : ∀ n, n ≠ x → P₁ n = P₂ n) (n₁ n₂ : Nat) (w₁ w₂ : World S σ)
    (hw₁ : w₁ = steps cfg P₁ n₁ (init cfg P₁)) (hw₂ : w₂ = steps cfg P₂ n₂ (init cfg P₂))
    (hf₁ : w₁.finalized = true) (hf₂ : w₂.finalized = true) :
    beforeFinish (ptrace x w₁) = beforeFinish (ptrace x w₂) ∧
    finishNodes (ptrace x w₁) = (List.range cfg.nNodes).filter (fun n => n != x) ∧
    finishNodes (ptrace x w₂) = (List.range cfg.nNodes).filter (fun n => n != x) ∧
    (∀ n, n ≠ x → w₁.pos n = w₂.pos n) ∧
    ((∀ n, n ≠ x → FinishClockFree P₂ n) →
      (ptrace x w₁).map Obs.eraseFinishTime = (ptrace x w₂).map Obs.eraseFinishTime) := by
  obtain ⟨A, F₁, F₂, h₁, h₂, hA, hB₁, hB₂⟩ :=
    C13_noninterference_duration_blocks cfg hm hdt P₁ P₂ x hs₁ hs₂ hP n₁ n₂ w₁ w₂ hw₁ hw₂ hf₁ hf₂
  have s₁ := finBlocks_split hA hB₁
  have s₂ := finBlocks_split hA hB₂
  subst hw₁ hw₂
  have tw : Twin x P₁ P₂ := ⟨hs₁, hs₂, hP⟩
  obtain ⟨k₁, k₂, e₁, e₂, hv⟩ := completed_views cfg tw hm hdt n₁ n₂ hf₁ hf₂
  refine ⟨by rw [h₁, h₂, s₁.1, s₂.1], h₁ ▸ s₁.2, h₂ ▸ s₂.2, fun n hn => ?_, fun hc => ?_⟩
  · rw [e₁, e₂, (pos_kept cfg).finalise P₁, (pos_kept cfg).finalise P₂]
    exact hv.pos n hn
  · rw [e₁, e₂]
    exact (finEq_finalise cfg tw hc (evSteps_flags cfg P₁ k₁).2 (evSteps_flags cfg P₂ k₂).2 hv).ptrace_eq

/-- in particular against the idle `x`: a completed run under a duration shows the others what the
    completed run with `x` doing nothing shows them -/
theorem C13_noninterference_duration_vs_idle (cfg : Config S) (hm : cfg.maxIter = none)
    (hdt : 0 ≤ cfg.dt) (P : NodeId → Proto S σ) (x : NodeId) (hs : Silent x P) (n₁ n₂ : Nat)
    (hf₁ : (steps cfg P n₁ (init cfg P)).finalized = true)
    (hf₂ : (steps cfg (mute P x) n₂ (init cfg (mute P x))).finalized = true) :
    beforeFinish (ptrace x (steps cfg P n₁ (init cfg P))) =
      beforeFinish (ptrace x (steps cfg (mute P x) n₂ (init cfg (mute P x)))) ∧
    (∀ n, n ≠ x → (steps cfg P n₁ (init cfg P)).pos n =
      (steps cfg (mute P x) n₂ (init cfg (mute P x))).pos n) ∧
    ((∀ n, n ≠ x → FinishClockFree P n) →
      (ptrace x (steps cfg P n₁ (init cfg P))).map Obs.eraseFinishTime =
        (ptrace x (steps cfg (mute P x) n₂ (init cfg (mute P x)))).map Obs.eraseFinishTime) := by
  have h := C13_noninterference_duration cfg hm hdt P (mute P x) x hs (mute_silent P x)
    (mute_agree P x) n₁ n₂ _ _ rfl rfl hf₁ hf₂
  refine ⟨h.1, h.2.2.2.1, fun hc => h.2.2.2.2 ?_⟩
  intro n hn
  unfold FinishClockFree
  rw [← mute_agree P x n hn]
  exact hc n hn

namespace Witness

/-- a throw-away scalar: the witness has neither communication nor mobility -/
instance intScalar : Scalar Int where
  ofInt := id
  add := (· + ·)
  sub := (· - ·)
  mul := (· * ·)
  div := (· / ·)
  neg := (- ·)
  sq := fun a => a * a
  sqrt := id
  sin := id
  cos := id
  acos? := fun a => some a
  atan2 := fun a _ => a
  radians := id
  le := fun a b => decide (a ≤ b)
  lt := fun a b => decide (a < b)

/-- two nodes, timers only -/
def cfg (maxIter : Option Nat) (duration : Option Int) : Config Int :=
  { nNodes := 2, hasTimer := true, hasComm := false, hasMob := false, handlers := [],
    duration := duration, maxIter := maxIter, delay := 0, failRate := 0, defaultRange := 0, dt := 1,
    dtS := 1, defaultSpeed := 0, refGeo := ⟨0, 0, 0⟩, initPos := fun _ => ⟨0, 0, 0⟩,
    draws := fun _ => 0 }

/-- node 0 sets timers at 2 and 4 when initialised -/
def node0 : Proto Int Unit :=
  { init := (), react := fun s _ _ cb => match cb with
      | .initialize => Prog.ofList s [.setTimer "a" 2, .setTimer "b" 4]
      | _ => .done s }

def idle : Proto Int Unit := { init := (), react := fun s _ _ _ => .done s }

/-- silent node 1 additionally sets timers at 3 and 10 (one of them under a name node 0 uses) -/
def busy : Proto Int Unit :=
  { init := (), react := fun s _ _ cb => match cb with
      | .initialize => Prog.ofList s [.setTimer "a" 3, .setTimer "c" 10]
      | _ => .done s }

def PA : NodeId → Proto Int Unit := fun n => if n = 0 then node0 else idle
def PB : NodeId → Proto Int Unit := fun n => if n = 0 then node0 else if n = 1 then busy else idle

/-- the timer callbacks (name, reported time) node `n` received -/
def timerCbs (n : NodeId) (tr : List (Obs Int)) : List (String × Int) :=
  tr.filterMap (fun o => match o with
    | .callback m (.timer name) t => if m = n then some (name, t) else none
    | _ => none)

/-- the time(s) node `n` read inside `finish` -/
def finishTimes (n : NodeId) (tr : List (Obs Int)) : List Int :=
  tr.filterMap (fun o => match o with
    | .callback m .finish t => if m = n then some t else none
    | _ => none)

theorem silentA : Silent 1 PA := fun _ _ _ => trivial

theorem silentB : Silent 1 PB := by
  intro s t cb
  cases cb
  case «initialize» => exact ⟨rfl, fun _ => ⟨rfl, fun _ => trivial⟩⟩
  all_goals trivial

theorem agree : ∀ n, n ≠ 1 → PA n = PB n := by
  intro n hn
  unfold PA PB
  rw [if_neg hn]

theorem clockFreeB : ∀ n, n ≠ 1 → FinishClockFree PB n := by
  intro n hn s t t'
  unfold PB
  rw [if_neg hn]
  split <;> exact ⟨rfl, trivial⟩

/-- node 0 as before; in `finish` it also schedules a timer for time 7, without looking at the time
    it is given -/
def node0f : Proto Int Unit :=
  { init := (), react := fun s _ _ cb => match cb with
      | .initialize => Prog.ofList s [.setTimer "a" 2, .setTimer "b" 4]
      | .finish => Prog.ofList s [.setTimer "z" 7]
      | _ => .done s }

def PAf : NodeId → Proto Int Unit := fun n => if n = 0 then node0f else idle
def PBf : NodeId → Proto Int Unit := fun n => if n = 0 then node0f else if n = 1 then busy else idle

/-- the `schedule_timer` requests (name, accepted?) node `n` issued -/
def timerReqs (n : NodeId) (tr : List (Obs Int)) : List (String × Bool) :=
  tr.filterMap (fun o => match o with
    | .request m (.setTimer name _) ok => if m = n then some (name, ok) else none
    | _ => none)

theorem agreef : ∀ n, n ≠ 1 → PAf n = PBf n := by
  intro n hn
  unfold PAf PBf
  rw [if_neg hn]

end Witness

open Witness in
/-- FINDING F13 on the model. Node 1 is silent in both scenarios and the scenarios agree off node 1
    (so the hypotheses of `C13_noninterference_partial` hold), yet
    (1) with `max_iterations = 2` node 0 loses its second timer callback when node 1 sets a timer
        (the shared iteration budget), and
    (2) with `duration = 20` and no iteration limit node 0 reads time 4 in `finish` when node 1 is
        idle and time 10 when node 1 has a later timer (the global clock read at finalisation),
    while in (2) node 0's timer callbacks are the same. -/
theorem C13_shared_bounds_witness :
    Silent 1 PA ∧ Silent 1 PB ∧ (∀ n, n ≠ 1 → PA n = PB n) ∧
    timerCbs 0 (steps (cfg (some 2) none) PA 10 (init (cfg (some 2) none) PA)).trace
      = [("a", 2), ("b", 4)] ∧
    timerCbs 0 (steps (cfg (some 2) none) PB 10 (init (cfg (some 2) none) PB)).trace
      = [("a", 2)] ∧
    finishTimes 0 (steps (cfg none (some 20)) PA 10 (init (cfg none (some 20)) PA)).trace = [4] ∧
    finishTimes 0 (steps (cfg none (some 20)) PB 10 (init (cfg none (some 20)) PB)).trace = [10] ∧
    timerCbs 0 (steps (cfg none (some 20)) PA 10 (init (cfg none (some 20)) PA)).trace =
      timerCbs 0 (steps (cfg none (some 20)) PB 10 (init (cfg none (some 20)) PB)).trace := by
  refine ⟨silentA, silentB, agree, ?_, ?_, ?_, ?_, ?_⟩ <;> decide

open Witness in
/-- the clock is read in `finish` through `schedule_timer` too (why `FinishClockFree` excludes it).
    Node 0's `finish` ignores the time it is given and schedules a timer for time 7; node 1 is silent
    and the scenarios agree off node 1; with `duration = 20` the clock at finalisation is 4 when node 1
    is idle (request accepted) and 10 when node 1 has a timer at 10 (request refused: the protocol
    sees the exception). -/
theorem C13_finish_setTimer_witness :
    Silent 1 PAf ∧ Silent 1 PBf ∧ (∀ n, n ≠ 1 → PAf n = PBf n) ∧
    (∀ s t t', (PAf 0).react s 0 t .finish = (PAf 0).react s 0 t' .finish) ∧
    timerReqs 0 (steps (cfg none (some 20)) PAf 10 (init (cfg none (some 20)) PAf)).trace
      = [("a", true), ("b", true), ("z", true)] ∧
    timerReqs 0 (steps (cfg none (some 20)) PBf 10 (init (cfg none (some 20)) PBf)).trace
      = [("a", true), ("b", true), ("z", false)] := by
  refine ⟨fun _ _ _ => trivial, silentB, agreef, fun _ _ _ => rfl, ?_, ?_⟩ <;> decide

/-- non-vacuity of the duration theorem on the F13 scenarios (`duration = 20`, node 1 idle vs node 1
    with timers at 3 and 10, ten `step_simulation` calls each: both runs are complete). Node 0's
    complete projected traces agree up to the time reported to `finish` (4 vs 10). -/
example :
    (ptrace 1 (steps (Witness.cfg none (some 20)) Witness.PA 10
      (init (Witness.cfg none (some 20)) Witness.PA))).map Obs.eraseFinishTime =
    (ptrace 1 (steps (Witness.cfg none (some 20)) Witness.PB 10
      (init (Witness.cfg none (some 20)) Witness.PB))).map Obs.eraseFinishTime :=
  (C13_noninterference_duration (Witness.cfg none (some 20)) rfl (by decide) Witness.PA Witness.PB 1
    Witness.silentA Witness.silentB Witness.agree 10 10 _ _ rfl rfl (by decide) (by decide)).2.2.2.2
    Witness.clockFreeB

/-- non-vacuity of the partial theorem on the witness scenarios: after initialisation and 2 resp. 3
    executed events both runs have executed node 0's two timers, and the projected traces agree -/
example :
    ptrace 1 (evSteps (Witness.cfg none none) Witness.PA 2 (start0 (Witness.cfg none none) Witness.PA)) =
    ptrace 1 (evSteps (Witness.cfg none none) Witness.PB 3 (start0 (Witness.cfg none none) Witness.PB)) :=
  ((C13_noninterference_partial (Witness.cfg none none) (by decide) Witness.PA Witness.PB 1
    Witness.silentA Witness.silentB Witness.agree 2 3).2 (by decide)).1

end C13
