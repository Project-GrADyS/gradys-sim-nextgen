import GradysProofs.Lemmas.SimFired
import GradysProofs.Lemmas.SimShape
/-
  C07 — timers fire once, on time, for their owner, unless cancelled by name.
  How the clauses compose into the run-level property, for every program and history:
   * `C07_set_spec`      an accepted set creates exactly one event at the requested time and one
                         pending entry with a fresh identifier; a past request is refused, no effect;
   * C02 / C01           that event executes exactly once, when the clock equals the requested time;
   * `C07_fire_spec`     when it executes, `handle_timer(name)` is called on the owner iff the entry is
                         still pending, and the entry is forgotten BEFORE the handler runs;
   * `C07_cancel_frame`  entries disappear only by firing or by the owner's `cancel(name)`, which
                         removes all and only the owner's entries of that name;
   * `C07_pending_inv`   identifiers are unique, every pending entry has its event queued, timer
                         events are pairwise distinct — so the above is unambiguous.
  The composition itself is kernel-checked as RUN-LEVEL COUNTING over the trace of every reachable
  world, for every configuration with a timer handler and every protocol program (`C07_run_*` below;
  the counters `firedT`, `accSetT`, `queuedT`, `execdT` are those of `Lemmas/SimCountSpecs.lean`).
-/
set_option linter.unusedSectionVars false

namespace C07
open Sim
variable {S σ : Type} [Scalar S]

/-- in every reachable world: ids fresh and unique, each pending timer has its event in the queue,
    distinct timer events never share (node, id) -/
theorem C07_pending_inv {cfg : Config S} (hdt : 0 ≤ cfg.dt) {P : NodeId → Proto S σ}
    {w : World S σ} (h : Reachable cfg P w) : PInv w := reachable_pinv h

/-- the same when callbacks may let exceptions escape under a driver that keeps stepping (`ReachableT`): a timer
    whose handler raised is gone like any timer that fired, everybody else's bookkeeping is untouched -/
theorem C07_pending_inv_tolerant {cfg : Config S} (hdt : 0 ≤ cfg.dt) {P : NodeId → Proto S σ}
    {w : World S σ} (h : ReachableT cfg P w) : PInv w := reachableT_pinv h

/-- ... hence exactly one queued event per pending timer: two queued events for the same (node, id)
    are the same event -/
theorem C07_one_event_per_timer {cfg : Config S} (hdt : 0 ≤ cfg.dt) {P : NodeId → Proto S σ}
    {w : World S σ} (h : Reachable cfg P w) :
    w.loop.queue.Pairwise
      (fun a b => ∀ n na nb id, a.kind = .timerFire n na id → b.kind = .timerFire n nb id → False) :=
  queue_timer_unique (reachable_inv hdt h) (reachable_pinv h)

/-- set: refused without effect in the past; otherwise exactly one event at the requested time, one
    new pending entry `(n, name, fresh id)`, nothing else about timers changes -/
theorem C07_set_spec (cfg : Config S) (ht : cfg.hasTimer = true) (n : NodeId) (name : String)
    (at_ : Int) (w : World S σ) :
    (at_ < w.loop.now → execReq cfg n (.setTimer name at_) w = (w, false)) ∧
    (w.loop.now ≤ at_ →
      (execReq cfg n (.setTimer name at_) w).2 = true ∧
      (execReq cfg n (.setTimer name at_) w).1.pending = (n, name, w.nextTimer n) :: w.pending ∧
      (execReq cfg n (.setTimer name at_) w).1.loop.queue =
        insertEv ⟨at_, w.loop.nextSeq, .timerFire n name (w.nextTimer n)⟩ w.loop.queue) ∧
    (PInv w → (n, name, w.nextTimer n) ∉ w.pending) := by
  rw [execReq_setTimer cfg ht]
  refine ⟨fun h => if_pos h, fun h => ?_, fun hp hm => ?_⟩
  · rw [if_neg (Int.not_lt.mpr h)]
    exact ⟨rfl, rfl, rfl⟩
  · exact Nat.lt_irrefl _ (hp.id_lt _ hm)

/-- cancel: removes all and only the caller's pending entries of that name; other names, other
    nodes, the queue and the clock are untouched; never fails -/
theorem C07_cancel_frame (cfg : Config S) (ht : cfg.hasTimer = true) (n : NodeId) (name : String)
    (w : World S σ) :
    (execReq cfg n (.cancelTimer name) w).2 = true ∧
    (∀ p, p ∈ (execReq cfg n (.cancelTimer name) w).1.pending ↔
      p ∈ w.pending ∧ ¬ (p.1 = n ∧ p.2.1 = name)) ∧
    (execReq cfg n (.cancelTimer name) w).1.loop = w.loop ∧
    (execReq cfg n (.cancelTimer name) w).1.nextTimer = w.nextTimer := by
  rw [execReq_cancelTimer cfg ht]
  exact ⟨rfl, fun _ => mem_disarm, rfl, rfl⟩

/-- timers set after a cancel are unaffected by it: cancel then set leaves the new entry pending -/
theorem C07_set_after_cancel (cfg : Config S) (ht : cfg.hasTimer = true) (n : NodeId)
    (name : String) (at_ : Int) (w : World S σ) :
    let w1 := (execReq cfg n (.cancelTimer name) w).1
    w1.loop.now ≤ at_ →
      (n, name, w1.nextTimer n) ∈ (execReq cfg n (.setTimer name at_) w1).1.pending := by
  intro w1 h
  rw [execReq_setTimer cfg ht, if_neg (Int.not_lt.mpr h)]
  exact mem_arm.mpr (.inl rfl)

/-- fire: when the event `timerFire n name id` is executed, `handle_timer(name)` runs on `n` — and
    only there — iff `(n, name, id)` is still pending; the entry is removed before the handler runs,
    so the handler may set or cancel the same name freely; a cancelled timer's event does nothing -/
theorem C07_fire_spec (cfg : Config S) (P : NodeId → Proto S σ) (ts : Int) (seq : Nat)
    (n : NodeId) (name : String) (id : Nat) (w : World S σ) :
    ((n, name, id) ∈ w.pending →
      execEv cfg P ⟨ts, seq, .timerFire n name id⟩ w =
        callback cfg P n (.timer name) { w with pending := w.pending.erase (n, name, id) }) ∧
    ((n, name, id) ∉ w.pending → execEv cfg P ⟨ts, seq, .timerFire n name id⟩ w = w) :=
  -- on a timer event `execEv` is, by `rfl`, an `if` on `pending.contains`
  ⟨fun h => if_pos (List.contains_iff_mem.mpr h), fun h => if_neg (fun hc => h (List.contains_iff_mem.mp hc))⟩

/-- re-entrancy: inside the handler the fired timer is already forgotten (ids are unique), so a
    cancel of the same name from inside the handler cannot fail and cannot "un-fire" anything -/
theorem C07_reentrant {cfg : Config S} (hdt : 0 ≤ cfg.dt) {P : NodeId → Proto S σ} {w : World S σ}
    (h : Reachable cfg P w) (n : NodeId) (name : String) (id : Nat) :
    (n, name, id) ∉ w.pending.erase (n, name, id) := by
  intro hm
  exact ((reachable_pinv h).nodup.mem_erase_iff.mp hm).1 rfl

/-- a `handle_timer` call happens only by executing a timer event of that node and name that is
    still pending: never on another node, never with another name, never spontaneously -/
theorem C07_timer_only_from_its_event (cfg : Config S) (P : NodeId → Proto S σ) (e : Ev (EvKind S))
    (w : World S σ) (n : NodeId) (name : String) (t : Int)
    (h : Obs.callback n (.timer name) t ∈ (execEv cfg P e w).rtrace)
    (hn : Obs.callback n (.timer name) t ∉ w.rtrace) :
    ∃ id, e.kind = .timerFire n name id ∧ (n, name, id) ∈ w.pending := by
  rcases execEv_callback_origin cfg P e w h hn with ⟨name', id, hc, hk, hp⟩ | ⟨_, _, hc, _⟩ | ⟨_, hc, _⟩
  · injection hc with hc; subst hc; exact ⟨id, hk, hp⟩
  · cases hc
  · cases hc

/-- `C07_run_count` for every run of a *tolerant stepped driver* (`ReachableT`: an exception escaping a callback
    while the caller keeps stepping): still one event per accepted `set_timer`, executed once or queued; still no
    `handle_timer` call without its event and at most one per event -/
theorem C07_run_count_tolerant {cfg : Config S} (ht : cfg.hasTimer = true) (hdt : 0 ≤ cfg.dt)
    {P : NodeId → Proto S σ} {w : World S σ} (h : ReachableT cfg P w) (n : NodeId) (name : String) (t : Int) :
    accSetT w n name t = execdT w n name t + queuedT w n name t ∧
    firedT w n name t ≤ execdT w n name t ∧
    firedT w n name t + queuedT w n name t ≤ accSetT w n name t := by
  have h1 := accSetT_eq_createdT ht h n name t
  have h2 := firedT_le_execdT ht h n name t
  have h3 := createdT_eq (reachableT_inv hdt h) n name t
  exact ⟨h1.trans h3, h2, by rw [h1, h3]; exact Nat.add_le_add_right h2 _⟩

/-- For every node, timer name and time `t`, in every reachable world:
    * every accepted `set_timer(name, t)` created exactly one event for that node, name and time,
      which is either still queued or was executed (exactly once, C02);
    * `handle_timer(name)` reporting time `t` happens only by executing such an event, at most once per
      event — so it reports the requested time, for the requesting node, with the requested name;
    * hence callbacks + still-queued events never exceed the accepted requests. -/
theorem C07_run_count {cfg : Config S} (ht : cfg.hasTimer = true) (hdt : 0 ≤ cfg.dt)
    {P : NodeId → Proto S σ} {w : World S σ} (h : Reachable cfg P w) (n : NodeId) (name : String) (t : Int) :
    accSetT w n name t = execdT w n name t + queuedT w n name t ∧
    firedT w n name t ≤ execdT w n name t ∧
    firedT w n name t + queuedT w n name t ≤ accSetT w n name t :=
  C07_run_count_tolerant ht hdt h.toT n name t

/-- the same with the created events named: accepted sets = created events = executed + queued -/
theorem C07_run_created {cfg : Config S} (ht : cfg.hasTimer = true) (hdt : 0 ≤ cfg.dt)
    {P : NodeId → Proto S σ} {w : World S σ} (h : Reachable cfg P w) (n : NodeId) (name : String) (t : Int) :
    accSetT w n name t = createdT w n name t ∧
    createdT w n name t = execdT w n name t + queuedT w n name t :=
  ⟨accSetT_eq_createdT ht h.toT n name t, createdT_eq (reachable_inv hdt h) n name t⟩

/-- the general form of `C07_run_no_cancel`, for the tolerant driver (a lemma, not one of the `C07_*` theorems) -/
theorem run_no_cancel_tolerant {cfg : Config S} (ht : cfg.hasTimer = true) (hdt : 0 ≤ cfg.dt)
    {P : NodeId → Proto S σ} {w : World S σ} (h : ReachableT cfg P w) (n : NodeId) (name : String)
    (hnc : accCancelT w n name = 0) (t : Int) :
    firedT w n name t = execdT w n name t ∧
    firedT w n name t + queuedT w n name t = accSetT w n name t := by
  have hc := C07_run_count_tolerant ht hdt h n name t
  have := firedT_eq_execdT ht hdt h n name hnc t
  omega

/-- if node `n` never had a `cancel_timer(name)` accepted, nothing of `(n, name)` is ever lost: every
    executed timer event made its `handle_timer(name)` call, so the calls reporting time `t` plus the
    events still queued for `t` are EXACTLY the accepted `set_timer(name, t)` requests -/
theorem C07_run_no_cancel {cfg : Config S} (ht : cfg.hasTimer = true) (hdt : 0 ≤ cfg.dt)
    {P : NodeId → Proto S σ} {w : World S σ} (h : Reachable cfg P w) (n : NodeId) (name : String)
    (hnc : accCancelT w n name = 0) (t : Int) :
    firedT w n name t = execdT w n name t ∧
    firedT w n name t + queuedT w n name t = accSetT w n name t :=
  run_no_cancel_tolerant ht hdt h.toT n name hnc t

-- `hq` can be met only without a mobility handler: with one and `0 < cfg.dt` the next mobility update
-- is always queued (`MInv.ticks`), so no reachable world has an empty queue
/-- an exhausted run (empty queue): every `handle_timer(name)` call on `n` reporting `t` is accounted
    for by an accepted `set_timer(name, t)` of `n`, at most one call per request; and if `n` never had
    a `cancel_timer(name)` accepted, EVERY accepted request fired exactly once, at its time -/
theorem C07_run_exhausted {cfg : Config S} (ht : cfg.hasTimer = true) (hdt : 0 ≤ cfg.dt)
    {P : NodeId → Proto S σ} {w : World S σ} (h : Reachable cfg P w) (hq : w.loop.queue = [])
    (n : NodeId) (name : String) (t : Int) :
    firedT w n name t ≤ accSetT w n name t ∧
    (accCancelT w n name = 0 → firedT w n name t = accSetT w n name t) := by
  have hc := C07_run_count ht hdt h n name t
  have hq0 : queuedT w n name t = 0 := by unfold queuedT; rw [hq]; rfl
  refine ⟨by omega, fun hnc => ?_⟩
  have := C07_run_no_cancel ht hdt h n name hnc t
  omega

/-- non-vacuity of the run-level hypotheses: the freshly built simulation is reachable, with an empty
    queue when there is no mobility handler -/
example (cfg : Config S) (P : NodeId → Proto S σ) (hm : cfg.hasMob = false) :
    Reachable cfg P (init cfg P) ∧ (init cfg P).loop.queue = [] := by
  refine ⟨reachable_of_steps cfg P 0, ?_⟩
  rw [init_eq]; simp [hm, init0, EL.empty]

/-- Requests issued through a node's provider between `build()` and the first step are part of every
    run-level statement above: `Reachable` is closed under such requests (`Reachable.ext`), so the worlds
    `initWith cfg P pre`, for an arbitrary list `pre` of them, and all runs from there are reachable.
    A timer set there for a time `t ≥ 0` is accepted like any other -/
theorem C07_prestart_timer_accepted (cfg : Config S) (ht : cfg.hasTimer = true) (P : NodeId → Proto S σ)
    (pre : List (NodeId × Prog S σ)) (n : NodeId) (name : String) (t : Int) (h0 : 0 ≤ t) :
    (execReq cfg n (.setTimer name t) (initWith cfg P pre)).2 = true ∧
    ∀ k, Reachable cfg P (steps cfg P k
      (initWith cfg P (pre ++ [(n, Prog.req (.setTimer name t) (fun _ => Prog.done (P n).init))]))) := by
  have hnow : (initWith cfg P pre).loop.now = 0 := by
    rw [(ext_initWith cfg P pre).now, init_eq]; split <;> rfl
  refine ⟨?_, fun k => reachable_steps (reachable_initWith cfg P _) k⟩
  rw [execReq_setTimer cfg ht, hnow, if_neg (Int.not_lt.mpr h0)]

/-- non-vacuity: set then fire on a concrete world shape -/
example (cfg : Config S) (ht : cfg.hasTimer = true) (w : World S σ) (h0 : w.loop.now = 0) :
    (execReq cfg 3 (.setTimer "a" 5) w).2 = true := by
  rw [execReq_setTimer cfg ht, h0]
  rfl

end C07
