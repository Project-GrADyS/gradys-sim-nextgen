import GradysProofs.Lemmas.SimLife
/-
  C05 — protocol and handler lifecycle callbacks happen exactly once and in phase order.
  Guard: the after-step hooks do not raise (that case is C18).
-/
set_option linter.unusedSectionVars false

namespace C05
open Sim
variable {S σ : Type} [Scalar S]

/-- before the first step nothing has happened: no handler or protocol lifecycle call, no callback, no
    executed event — the only observations are the requests a user issued through the nodes' providers
    between `build()` and the first step (none, if there were none) -/
theorem C05_before_first_step {cfg : Config S} (hdt : 0 ≤ cfg.dt) {P : NodeId → Proto S σ}
    {w : World S σ} (h : Reachable cfg P w) (hi : w.initialized = false) :
    (∀ o ∈ w.trace, ∃ n, Obs.isRequestOf n o) ∧ w.executed = [] ∧ w.finalized = false := by
  obtain ⟨h1, h2, _, h4⟩ := (reachable_linv h).fresh hi
  exact ⟨fun o ho => h1 o (World.mem_trace.mp ho), World.executed_eq_nil.mpr h2, h4⟩

/-- without requests before the first step, the trace is empty until the first step -/
theorem C05_before_first_step_fresh (cfg : Config S) (P : NodeId → Proto S σ) :
    (init cfg P).trace = [] ∧ (init cfg P).executed = [] ∧ (init cfg P).initialized = false :=
  init_ind (I := fun w => w.trace = [] ∧ w.executed = [] ∧ w.initialized = false) ⟨rfl, rfl, rfl⟩ id

/-- the exact lifecycle shape: each handler initialised once, in registration order, before any
    protocol; each protocol's initialize once, in node order, at time 0, before any event; after the
    i-th executed event (i = 0, 1, 2, …) each handler's after-step hook once, in order, with `i` and
    that event's timestamp; and — exactly when the run has reported completion — each protocol's
    finish once, after the last executed event, followed by each handler's finalise once. Nothing else
    of these kinds ever appears. -/
theorem C05_trace_shape {cfg : Config S} (hdt : 0 ≤ cfg.dt) {P : NodeId → Proto S σ}
    {w : World S σ} (h : Reachable cfg P w) (hi : w.initialized = true) :
    w.trace.filter isLife =
      initBlock cfg ++ afterBlocks cfg w.executed ++
        (if w.finalized then finalBlock cfg (reportedTime cfg w) else []) := by
  have hs := (reachable_linv h).shape hi
  rw [World.filter_trace, hs, afterBlocks_executed]
  simp only [List.reverse_append, List.reverse_reverse, List.append_assoc]
  split <;> simp

/-- the number of after-step rounds is the number of executed events, and the iteration counter is
    that number -/
theorem C05_iteration_counter {cfg : Config S} (hdt : 0 ≤ cfg.dt) {P : NodeId → Proto S σ}
    {w : World S σ} (h : Reachable cfg P w) : w.iter = w.executed.length := by
  rw [(reachable_linv h).iter_eq, w.executed_length]

/-- whenever `step_simulation` returns `False` the simulation is finalised -/
theorem C05_completed_is_finalized (cfg : Config S) (P : NodeId → Proto S σ) (w : World S σ)
    (hr : (step cfg P w).2 = false) : (step cfg P w).1.finalized = true := by
  rcases step_false cfg P w hr with ⟨hf, hs⟩ | ⟨w', _, hs⟩
  · rw [hs]; exact hf
  · rw [hs]; exact (finalise_flags cfg P _).finalized

/-- once the run has reported completion, every further step returns `False` and leaves the world
    (hence the trace) exactly as it is — also when `finish` or a handler's finalise scheduled events -/
theorem C05_step_after_completion_is_noop (cfg : Config S) (P : NodeId → Proto S σ) (w : World S σ)
    (hr : (step cfg P w).2 = false) :
    step cfg P (step cfg P w).1 = ((step cfg P w).1, false) :=
  step_finalized cfg P (C05_completed_is_finalized cfg P w hr)

/-- a run driven by the blocking call and a run driven by any sufficient number of manual steps
    (with any number of extra steps after completion) end in the same world, hence the same trace -/
theorem C05_driving_independent (cfg : Config S) (P : NodeId → Proto S σ) (fuel : Nat) (w : World S σ)
    (hc : (start cfg P fuel w).finalized = true) :
    ∃ n, ∀ m, n ≤ m → steps cfg P m w = start cfg P fuel w := by
  obtain ⟨n, _, hn⟩ := start_eq_steps cfg P fuel w
  refine ⟨n, fun m hm => ?_⟩
  obtain ⟨k, rfl⟩ := Nat.exists_eq_add_of_le hm
  rw [steps_add, ← hn]
  exact steps_finalized cfg P k hc

/-- non-vacuity of the shape: two handlers, two events -/
example (cfg : Config S) (hh : cfg.handlers = ["a", "b"]) :
    afterBlocks cfg [⟨5, 0, .mobTick⟩, ⟨7, 1, .mobTick⟩] =
    [.afterStep "a" 0 5, .afterStep "b" 0 5, .afterStep "a" 1 7, .afterStep "b" 1 7] := by
  simp [afterBlocks, afterBlocksR, hh]

end C05
