import GradysProofs.Lemmas.Interop
/-
  C14 — protocols behave the same in every environment wrapper.
  A. the interop wrapper returns, from every callback, exactly what was issued during it.
  B. the python wrapper forwards what the interop wrapper returns (two runs of ONE program).
  C. simulator-only extensions are no-ops on a non-python provider (repaired constructors, F14a).
  D. witness of finding F14b (`cancel_timer` under interop) on the model of the real behaviour.
  E. A and B for one instance among several in one process (projection of the interleaved run).
  F. A and B for protocols with plugin handlers in front of their callbacks (just another protocol).
-/
-- statements that use no arithmetic carry the `[Scalar S]` of the `variable` line unused.  The one `(S := S)`
-- (in `C14_wrapper_equivalence_no_cancel`) is needed: `iHandle` is handed over before anything fixes `S`
set_option linter.unusedSectionVars false

namespace C14
open Interop
variable {S σ : Type} [Scalar S]

/-- a protocol none of whose callbacks lets an exception escape -/
def NeverRaisesP (P : XProto S σ) : Prop := ∀ s n t cb, NeverRaises (P.react s n t cb)

theorem neverRaisesP_ofProto (P : Proto S σ) : NeverRaisesP (XProto.ofProto P) :=
  fun _ _ _ _ => neverRaises_ofProg _

theorem neverRaisesP_toX (P : LProto S σ) : NeverRaisesP P.toX :=
  fun _ _ _ _ => neverRaises_ofList _ _

theorem neverRaisesP_plugged (P : XProto S σ) (on : σ → Bool) (chain : List (Stage S σ))
    (hP : NeverRaisesP P) (hc : ∀ h ∈ chain, ∀ s n t cb, NeverRaises' (h.react s n t cb)) :
    NeverRaisesP (P.plugged on chain) := by
  intro s n t cb
  show NeverRaises (if on s then _ else _)
  split
  · exact neverRaises_chainProg _ _ _ (fun s' => hP s' n t cb)
      (List.forall_mem_map.mpr fun h hh s' => hc h hh s' n t cb) s
  · exact hP s n t cb

/-- Each interop callback returns exactly the requests issued during it, in order, unchanged — for
    every protocol, every state with nothing pending and every callback sequence in which the
    callbacks return normally (GUARD: a callback that lets an exception escape — the real behaviour
    of an uncaught `cancel_timer` — returns nothing and is the subject of `C14_F14b_…` below). -/
theorem C14_returns_exactly (P : XProto S σ) (w : IW S σ) (hw : w.prov.consequences = [])
    (steps : List (Int × Callback S)) (hret : ∀ r ∈ (irun P w steps).2, r.ret ≠ none) :
    ∀ r ∈ (irun P w steps).2, r.ret = some (issued r.transcript) :=
  (irun_returns_issued P w hw steps hret).1

theorem returns_exactly_of_neverRaisesP (P : XProto S σ) (hP : NeverRaisesP P) (w : IW S σ)
    (hw : w.prov.consequences = []) (steps : List (Int × Callback S)) :
    (∀ r ∈ (irun P w steps).2, r.ret = some (issued r.transcript)) ∧
    (irun P w steps).1.prov.consequences = [] :=
  irun_returns_issued P w hw steps (irun_forall P _ (fun w t cb => icallback_returns P w t cb (hP _ _ _ _)) w steps)

/-- … in particular for EVERY program of the simulator model (`Prog`: refusals are caught), with no
    further hypothesis -/
theorem C14_returns_exactly_every_prog (P : Proto S σ) (id : NodeId) (steps : List (Int × Callback S)) :
    ∀ r ∈ (irun (XProto.ofProto P) (IW.init (XProto.ofProto P) id) steps).2, r.ret = some (issued r.transcript) :=
  (returns_exactly_of_neverRaisesP _ (neverRaisesP_ofProto P) _ rfl steps).1

/-- the consequence of an issued request IS the request: type by kind, payload unchanged, and only
    accepted provider calls and tracked-variable writes have one -/
theorem C14_consequence_content (a : Act S) (c : Consequence S) (h : consequenceOf a = some c) :
    c.payload = a ∧
    (c.type = .timer ↔ ∃ n t, a = .req (.setTimer n t)) ∧
    (c.type = .communication ↔ (∃ m d, a = .req (.send m d)) ∨ ∃ m, a = .req (.broadcast m)) ∧
    (c.type = .trackVariable ↔ ∃ k v, a = .track k v) := by
  cases a with
  | req r => cases r <;> cases h <;> simp
  | track k v => cases h; simp
  | ext e => cases h

/-- Nothing is left over: after every such callback sequence the pending list is empty, and the
    lists returned so far, concatenated, are the consequences issued so far, concatenated — no
    request is returned twice, late, or lost. -/
theorem C14_nothing_left_over (P : XProto S σ) (w : IW S σ) (hw : w.prov.consequences = [])
    (steps : List (Int × Callback S)) (hret : ∀ r ∈ (irun P w steps).2, r.ret ≠ none) :
    (irun P w steps).1.prov.consequences = [] ∧
    returnedAll (irun P w steps).2 = ((irun P w steps).2.map (fun r => issued r.transcript)).flatten := by
  have h0 := (irun_returns_issued P w hw steps hret).2
  have h := irun_conserves P w steps
  rw [h0, hw, List.append_nil, List.nil_append] at h
  exact ⟨h0, h⟩

theorem C14_nothing_left_over_every_prog (P : Proto S σ) (id : NodeId) (steps : List (Int × Callback S)) :
    (irun (XProto.ofProto P) (IW.init (XProto.ofProto P) id) steps).1.prov.consequences = [] :=
  (returns_exactly_of_neverRaisesP _ (neverRaisesP_ofProto P) _ rfl steps).2

/-- For every protocol whose continuation does not depend on acceptance, every node id, every
    behaviour `acc` of the python handlers and every callback sequence at given times:
    the two wrappers make the protocol perform the same actions callback by callback, and the
    requests the python wrapper forwarded to its handlers (each to exactly one, in order — `route`)
    are, as consequences, exactly the concatenation of the lists the interop wrapper returned,
    tracked-variable writes apart (python keeps those in a dict).  `cancel_timer`, which interop
    refuses (F14b), is forwarded by python and has no consequence: `fwdConsequence` drops it. -/
theorem C14_wrapper_equivalence (P : LProto S σ) (id : NodeId) (acc : PProv S → Act S → Bool)
    (steps : List (Int × Callback S)) :
    let py := prun acc P.toX (PW.init P.toX id) steps
    let io := irun P.toX (IW.init P.toX id) steps
    py.1.prov.log.filterMap fwdConsequence = (returnedAll io.2).filter (fun c => !isTrack c) ∧
    py.2.map (fun tr => tr.map Prod.fst) = io.2.map (fun r => r.transcript.map Prod.fst) := by
  intro py io
  -- in either environment the program of a callback performs `P.acts` and ends in `P.next`
  have h : py.2.map (fun tr => tr.map Prod.fst) = io.2.map (fun r => r.transcript.map Prod.fst) :=
    sim_seq (·.map Prod.fst) (fun _ => True) acc P.toX
      (fun _ _ _ _ ep ei _ _ => ⟨(run_ofList _ _ _ ep).1.trans (run_ofList _ _ _ ei).1.symm,
        (run_ofList _ _ _ ep).2.trans (run_ofList _ _ _ ei).2.symm⟩)
      _ _ rfl rfl steps (fun _ _ => trivial) (fun _ _ => trivial)
  refine ⟨?_, h⟩
  rw [forwarded_eq_returned acc P.toX id steps h,
    (returns_exactly_of_neverRaisesP _ (neverRaisesP_toX P) _ rfl steps).2, List.append_nil]

/-- with the explicit hypothesis "no `cancel_timer`": the correspondence is one-to-one — every
    forwarded request has its consequence, nothing dropped on either side but tracked variables -/
theorem C14_wrapper_equivalence_no_cancel (P : LProto S σ) (id : NodeId) (acc : PProv S → Act S → Bool)
    (steps : List (Int × Callback S)) (hnc : ∀ s n t cb, ∀ a ∈ P.acts s n t cb, isCancel a = false) :
    let py := prun acc P.toX (PW.init P.toX id) steps
    let io := irun P.toX (IW.init P.toX id) steps
    py.1.prov.log.map fwdConsequence = ((returnedAll io.2).filter (fun c => !isTrack c)).map some := by
  intro py io
  have hall : ∀ r ∈ io.2, ∀ a ∈ r.transcript.map Prod.fst, isCancel a = false :=
    irun_forall _ _ (fun w t cb => by
      rw [icallback_transcript]
      exact (run_ofList (S := S) iHandle _ _ _).1 ▸ hnc _ _ _ _) _ _
  have hlog : py.1.prov.log = _ := prun_log acc P.toX _ steps
  obtain ⟨h1, h2⟩ := C14_wrapper_equivalence P id acc steps
  rw [← h1, hlog, h2]
  exact map_fwdConsequence _ (List.forall_mem_flatten.mpr (List.forall_mem_map.mpr hall))

/-- For ANY protocol (continuations may depend on acceptance) and any callback sequence in which
    neither environment refuses anything and the callbacks return: same transcripts, and forwarded
    requests = concatenation of the returned consequence lists.  (When one side refuses, a protocol
    that branches on the refusal necessarily diverges: interop validates nothing — by design.) -/
theorem C14_wrapper_equivalence_nothing_refused (P : XProto S σ) (id : NodeId)
    (acc : PProv S → Act S → Bool) (steps : List (Int × Callback S))
    (hp : ∀ tr ∈ (prun acc P (PW.init P id) steps).2, ∀ x ∈ tr, x.2 = true)
    (hi : ∀ r ∈ (irun P (IW.init P id) steps).2, ∀ x ∈ r.transcript, x.2 = true)
    (hret : ∀ r ∈ (irun P (IW.init P id) steps).2, r.ret ≠ none) :
    let py := prun acc P (PW.init P id) steps
    let io := irun P (IW.init P id) steps
    py.1.prov.log.filterMap fwdConsequence = (returnedAll io.2).filter (fun c => !isTrack c) ∧
    py.2 = io.2.map (·.transcript) := by
  intro py io
  -- nothing being refused, the program of a callback goes down the same path in either environment
  have h : py.2 = io.2.map (·.transcript) := by
    have := sim_seq (fun tr => tr) (fun tr => ∀ x ∈ tr, x.2 = true) acc P
      (fun _ _ _ _ _ _ => run_lockstep _ _ _ _ _) _ _ rfl rfl steps hp hi
    rwa [List.map_id'] at this
  refine ⟨?_, h⟩
  rw [forwarded_eq_returned acc P id steps (by rw [h, List.map_map]; rfl),
    (irun_returns_issued _ _ rfl steps hret).2, List.append_nil]

/-- With a provider that is not a `PythonProvider` every method of the camera, communication and
    visualization controllers returns normally with its neutral value (`[]` / nothing), touches no
    handler, and — called on the interop provider — appends no consequence.  (A negative range is
    still rejected with `ValueError`, as inside the simulator.) -/
theorem C14_extensions_noop (c : ExtCall) (r : S) (p : IProv S) :
    Ext.call .other c = ⟨true, false, true⟩ ∧
    (Ext.setRange .other r).touchesHandler = false ∧ (Ext.setRange .other r).neutral = true ∧
    (Ext.setRange .other r).ok = !(Scalar.lt r (Scalar.ofInt 0)) ∧
    iHandle p (.ext c) = (p, true) ∧ (iHandle p (.req (.setRange r))).1 = p := by
  rw [Ext.setRange_other]
  refine ⟨Ext.call_of_no_handler .other c rfl, rfl, rfl, rfl, ?_, ?_⟩
  · cases c <;> rfl
  · rw [iHandle_eq]
    exact congrArg ({ p with consequences := · }) (List.append_nil _)

/-- the same for a python provider that simply lacks the handler -/
theorem C14_extensions_noop_without_handler (hs : String → Bool) (c : ExtCall)
    (h : hs (Ext.labelOf c) = false) : Ext.call (.python hs) c = ⟨true, false, true⟩ :=
  Ext.call_of_no_handler (.python hs) c h

/-- `take_picture()` without a mobility handler (always the case outside the python simulator) is a
    no-op however often it is called and whatever the callers did to the lists they were handed
    before (`al` is arbitrary): the list handed out is empty, it is a list of its own, and the
    earlier ones are left as they are. -/
theorem C14_picture_noop_fresh (sees : List Nat) (al : Ext.Album) :
    (Ext.takePicture .other sees al).2[(Ext.takePicture .other sees al).1]? = some [] ∧
    (Ext.takePicture .other sees al).1 = al.length ∧
    ∀ i, i < al.length → (Ext.takePicture .other sees al).2[i]? = al[i]? :=
  ⟨List.getElem?_concat_length .., rfl, Ext.takePicture_keeps .other sees al⟩

/-- inside the python simulator two pictures are two lists as well -/
theorem C14_picture_fresh_in_python (hs : String → Bool) (sees : List Nat) (al : Ext.Album) :
    ∀ i, i < al.length → (Ext.takePicture (.python hs) sees al).2[i]? = al[i]? :=
  Ext.takePicture_keeps (.python hs) sees al

/-! ### D. finding F14b — `cancel_timer` under interop, model of the real behaviour

  FULL statement of part A, without the guard "callbacks return normally":
      ∀ P steps, ∀ r ∈ (irun P (IW.init P id) steps).2, ∀ L, r.ret = some L → L = issued r.transcript
  It is FALSE for the real wrapper: `InteropProvider.cancel_timer` raises NotImplementedError; a
  protocol that does not catch it aborts its callback before `_collect_consequences()` runs, and the
  requests issued earlier in that callback are returned by the NEXT callback. -/

/-- trivial scalar for closed witnesses -/
instance unitScalar : Scalar Unit where
  ofInt _ := ()
  add _ _ := ()
  sub _ _ := ()
  mul _ _ := ()
  div _ _ := ()
  neg _ := ()
  sq _ := ()
  sqrt _ := ()
  sin _ := ()
  cos _ := ()
  acos? _ := some ()
  atan2 _ _ := ()
  radians _ := ()
  le _ _ := true
  lt _ _ := false

/-- `initialize` sets a timer and then calls `cancel_timer` without catching; `handle_timer` does nothing -/
def f14bProto : XProto Unit Unit :=
  { init := (),
    react := fun _ _ _ cb => match cb with
      | .initialize => .act (.req (.setTimer "a" 5))
          (fun _ => .act (.req (.cancelTimer "a")) (fun ok => if ok then .done () else .raise ()))
      | _ => .done () }

/-- the first callback raises and returns nothing; the second, which issued nothing, returns the
    first one's timer -/
theorem C14_F14b_cancel_timer_leaks :
    (irun f14bProto (IW.init f14bProto 0) [(0, .initialize), (1, .timer "x")]).2.map (fun r => (r.ret, issued r.transcript))
      = [(none, [⟨.timer, .req (.setTimer "a" 5)⟩]), (some [⟨.timer, .req (.setTimer "a" 5)⟩], [])] :=
  rfl

/-- hence the unguarded statement of part A is false -/
theorem C14_F14b_unguarded_statement_false :
    ¬ (∀ (P : XProto Unit Unit) (steps : List (Int × Callback Unit)),
        ∀ r ∈ (irun P (IW.init P 0) steps).2, ∀ L, r.ret = some L → L = issued r.transcript) := by
  intro h
  obtain ⟨r, hr, he⟩ := List.mem_map.mp
    (C14_F14b_cancel_timer_leaks ▸ List.mem_cons_of_mem _ List.mem_cons_self)
  exact List.cons_ne_nil _ _ ((h _ _ r hr _ (congrArg Prod.fst he)).trans (congrArg Prod.snd he))

/-! ### E. several wrapped instances of one protocol class alive in one process

  "Nothing left over from earlier callbacks" and "the same requests whether wrapped for the python
  simulator or for interop" are statements about ONE protocol instance: they hold for it whatever the
  other instances (of either wrapper) are fed, before, between and after its own callbacks. -/

/-- For every protocol, every family of wrapper states and every interleaving: what instance `k`
    returns / performs / forwards and the state it ends in are those of instance `k` driven ALONE
    through the callbacks addressed to it — under both wrappers. -/
theorem C14_instances_independent (P : XProto S σ) (acc : PProv S → Act S → Bool)
    (iws : Nat → IW S σ) (pws : Nat → PW S σ) (steps : List (Nat × Int × Callback S)) (k : Nat) :
    resultsOf k (irunMulti P iws steps).2 = (irun P (iws k) (stepsOf k steps)).2 ∧
    (irunMulti P iws steps).1 k = (irun P (iws k) (stepsOf k steps)).1 ∧
    resultsOf k (prunMulti acc P pws steps).2 = (prun acc P (pws k) (stepsOf k steps)).2 ∧
    (prunMulti acc P pws steps).1 k = (prun acc P (pws k) (stepsOf k steps)).1 :=
  and_assoc.1 ⟨irunMulti_proj P iws steps k, prunMulti_proj acc P pws steps k⟩

/-- part A among instances: in every interleaving of the callbacks of any number of interop-wrapped
    instances of a program of the simulator model, EVERY callback returns exactly what its own
    instance issued during it, and no instance is left with anything pending. -/
theorem C14_returns_exactly_among_instances (P : Proto S σ) (ids : Nat → NodeId)
    (steps : List (Nat × Int × Callback S)) :
    (∀ x ∈ (irunMulti (XProto.ofProto P) (fun k => IW.init (XProto.ofProto P) (ids k)) steps).2,
      x.2.ret = some (issued x.2.transcript)) ∧
    ∀ k, ((irunMulti (XProto.ofProto P) (fun k => IW.init (XProto.ofProto P) (ids k)) steps).1 k).prov.consequences = [] := by
  refine ⟨fun x hx => ?_, fun k => ?_⟩
  · exact C14_returns_exactly_every_prog P (ids x.1) _ x.2
      ((irunMulti_proj _ _ steps x.1).1 ▸ mem_resultsOf x _ hx)
  · rw [(irunMulti_proj _ _ steps k).2]
    exact C14_nothing_left_over_every_prog P (ids k) _

/-- part B among instances: instance `k` of an acceptance-independent protocol performs the same
    actions, callback by callback, and has forwarded (python) exactly what was returned to it
    (interop), whatever the OTHER instances of either run were fed — the two runs need not even
    contain the same other instances (`stepsI`, `stepsP` agree on the callbacks of `k` only). -/
theorem C14_wrapper_equivalence_among_instances (P : LProto S σ) (ids : Nat → NodeId)
    (acc : PProv S → Act S → Bool) (stepsI stepsP : List (Nat × Int × Callback S)) (k : Nat)
    (hk : stepsOf k stepsI = stepsOf k stepsP) :
    let py := prunMulti acc P.toX (fun j => PW.init P.toX (ids j)) stepsP
    let io := irunMulti P.toX (fun j => IW.init P.toX (ids j)) stepsI
    (py.1 k).prov.log.filterMap fwdConsequence = (returnedAll (resultsOf k io.2)).filter (fun c => !isTrack c) ∧
    (resultsOf k py.2).map (fun tr => tr.map Prod.fst) = (resultsOf k io.2).map (fun r => r.transcript.map Prod.fst) := by
  dsimp only
  rw [(prunMulti_proj ..).2, (prunMulti_proj ..).1, (irunMulti_proj ..).1, hk]
  exact C14_wrapper_equivalence P (ids k) acc (stepsOf k stepsP)

/-! ### F. protocols built from plugins: handlers registered with the instance's dispatcher

  A wrapper calls `self.protocol.handle_x(...)`: it runs whatever the instance's method is at that
  moment, so to both wrappers the plugged protocol is just another protocol (`XProto.plugged`), and
  everything above holds for it. -/

/-- part A for plugged protocols: whatever handlers are plugged in and whenever (`on`), each interop
    callback returns exactly what the handlers it reached and the protocol's own method issued during
    it, in order, and nothing is left pending — provided none of them lets an exception escape. -/
theorem C14_plugged_returns_exactly (P : XProto S σ) (on : σ → Bool) (chain : List (Stage S σ))
    (hP : NeverRaisesP P) (hc : ∀ h ∈ chain, ∀ s n t cb, NeverRaises' (h.react s n t cb))
    (id : NodeId) (steps : List (Int × Callback S)) :
    (∀ r ∈ (irun (P.plugged on chain) (IW.init (P.plugged on chain) id) steps).2, r.ret = some (issued r.transcript)) ∧
    (irun (P.plugged on chain) (IW.init (P.plugged on chain) id) steps).1.prov.consequences = [] :=
  returns_exactly_of_neverRaisesP _ (neverRaisesP_plugged P on chain hP hc) _ rfl steps

/-- part B for plugged protocols, acceptance-independent handlers: an acceptance-independent
    protocol with acceptance-independent handlers plugged in front of its callbacks (answers
    CONTINUE / INTERRUPT included) performs the same actions callback by callback under both
    wrappers, and python forwards what interop returns — whatever the python handlers refuse. -/
theorem C14_plugged_wrapper_equivalence (P : LProto S σ) (on : σ → Bool) (chain : List (LStage S σ))
    (id : NodeId) (acc : PProv S → Act S → Bool) (steps : List (Int × Callback S)) :
    let Q := P.toX.plugged on (chain.map LStage.toStage)
    let py := prun acc Q (PW.init Q id) steps
    let io := irun Q (IW.init Q id) steps
    py.1.prov.log.filterMap fwdConsequence = (returnedAll io.2).filter (fun c => !isTrack c) ∧
    py.2.map (fun tr => tr.map Prod.fst) = io.2.map (fun r => r.transcript.map Prod.fst) := by
  rw [← plugged_toX]
  exact C14_wrapper_equivalence (P.plugged on chain) id acc steps

/-- part B for plugged protocols, any handlers: when neither environment refuses anything and the
    callbacks return, the transcripts (hence the handlers reached) are the same callback by callback -/
theorem C14_plugged_wrapper_equivalence_nothing_refused (P : XProto S σ) (on : σ → Bool) (chain : List (Stage S σ))
    (id : NodeId) (acc : PProv S → Act S → Bool) (steps : List (Int × Callback S))
    (hp : ∀ tr ∈ (prun acc (P.plugged on chain) (PW.init (P.plugged on chain) id) steps).2, ∀ x ∈ tr, x.2 = true)
    (hi : ∀ r ∈ (irun (P.plugged on chain) (IW.init (P.plugged on chain) id) steps).2, ∀ x ∈ r.transcript, x.2 = true)
    (hret : ∀ r ∈ (irun (P.plugged on chain) (IW.init (P.plugged on chain) id) steps).2, r.ret ≠ none) :
    (prun acc (P.plugged on chain) (PW.init (P.plugged on chain) id) steps).2 =
      (irun (P.plugged on chain) (IW.init (P.plugged on chain) id) steps).2.map (·.transcript) :=
  (C14_wrapper_equivalence_nothing_refused (P.plugged on chain) id acc steps hp hi hret).2

/-- a protocol that, on every callback, sets a timer, writes a tracked variable, cancels (refused
    under interop, caught), takes a picture (an extension call: no consequence, not forwarded) and
    broadcasts -/
def demo : LProto Unit Nat :=
  { init := 0, next := fun s _ _ _ => s + 1,
    acts := fun s _ t _ => [.req (.setTimer "t" (t + 1)), .track "n" (toString s), .req (.cancelTimer "t"),
                            .ext .cameraTakePicture, .req (.broadcast "hi")] }

example : (irun demo.toX (IW.init demo.toX 3) [(0, .initialize), (4, .timer "t")]).2.map (·.ret) =
    [some [⟨.timer, .req (.setTimer "t" 1)⟩, ⟨.trackVariable, .track "n" "0"⟩, ⟨.communication, .req (.broadcast "hi")⟩],
     some [⟨.timer, .req (.setTimer "t" 5)⟩, ⟨.trackVariable, .track "n" "1"⟩, ⟨.communication, .req (.broadcast "hi")⟩]] :=
  rfl

example : (prun (fun _ _ => true) demo.toX (PW.init demo.toX 3) [(0, .initialize), (4, .timer "t")]).1.prov.log =
    [(.timer, .setTimer "t" 1), (.timer, .cancelTimer "t"), (.communication, .broadcast "hi"),
     (.timer, .setTimer "t" 5), (.timer, .cancelTimer "t"), (.communication, .broadcast "hi")] :=
  rfl

/-- two instances (ids 3 and 5) of `demo`, callbacks interleaved: each counts its own callbacks -/
example : (irunMulti demo.toX (fun k => IW.init demo.toX (if k = 0 then 3 else 5))
      [(0, 0, .initialize), (1, 0, .initialize), (1, 2, .timer "t"), (0, 4, .timer "t")]).2.map
        (fun x => (x.1, x.2.ret.map (fun L => L.filter isTrack))) =
    [(0, some [⟨.trackVariable, .track "n" "0"⟩]), (1, some [⟨.trackVariable, .track "n" "0"⟩]),
     (1, some [⟨.trackVariable, .track "n" "1"⟩]), (0, some [⟨.trackVariable, .track "n" "1"⟩])] :=
  rfl

def h0 : LStage Unit Nat := { next := fun s _ _ _ => s, acts := fun _ _ _ _ => [.req (.broadcast "h0")], stop := fun _ _ _ _ => true }
def h1 : LStage Unit Nat := { next := fun s _ _ _ => s + 1, acts := fun _ _ _ _ => [.req (.broadcast "h1")], stop := fun _ _ _ _ => false }

/-- `demo` with two handlers plugged in from the second callback on (`on`: the instance has seen a
    callback): on a timer the newer handler `h1` broadcasts "h1" and the older one `h0` answers INTERRUPT,
    so the protocol's own method is not reached; `finish` cannot be interrupted -/
example : (irun (demo.toX.plugged (fun s => decide (s > 0)) ([h1, h0].map LStage.toStage))
      (IW.init demo.toX 3) [(0, .initialize), (4, .timer "t"), (4, .finish)]).2.map
        (fun r => r.ret.map (fun L => L.filterMap (fun c => match c.payload with | .req (.broadcast m) => some m | _ => none))) =
    [some ["hi"], some ["h1", "h0"], some ["h1", "h0", "hi"]] :=
  rfl

end C14
