import GradysProofs.Lemmas.SimCountSpecs
import GradysProofs.Lemmas.SimShape
/-
  C08 — a message in range is delivered exactly once, intact, to exactly its addressees.
  Hypotheses of the positive statements: a communication handler is configured, the medium is
  loss-free (`failure_rate > 0` is false) and the addressees are in the sender's range.
  Composition with C02 (every accepted event executes exactly once, none is invented) and C01
  (it executes at its timestamp) gives the run-level statement: the theorems below say that a
  command creates exactly the delivery events of its addressees, due at send time + delay, and that
  executing such an event is one `handle_packet` call with the unchanged payload on the addressee.
  The composition itself is kernel-checked as RUN-LEVEL COUNTING over the trace of every reachable
  world, for every configuration and every protocol program (`C08_run_*` below; the counters
  `handledP`, `createdD`, `execdD`, `queuedD`, `createdTo`, `accSendTo`, `accBcastNotBy` are those of
  `Lemmas/SimCountSpecs.lean`).
-/
set_option linter.unusedSectionVars false

namespace C08
open Sim
variable {S σ : Type} [Scalar S]

/-- an accepted unicast creates exactly one event: the delivery to the named node, due at send
    time + max delay 0 -/
theorem C08_unicast (cfg : Config S) (hc : cfg.hasComm = true)
    (hl : Scalar.gt cfg.failRate (Scalar.ofInt 0) = false) (n d : Nat) (msg : String)
    (hd : d ≠ n) (hdn : d < cfg.nNodes) (w : World S σ) (hr : inRange w n d = true) :
    (execReq cfg n (.send msg (some (d : Int))) w).2 = true ∧
    (execReq cfg n (.send msg (some (d : Int))) w).1.raccepted =
      ⟨w.loop.now + max cfg.delay 0, w.loop.nextSeq, .deliver d n msg⟩ :: w.raccepted := by
  rw [execReq_send cfg hc n d msg hd hdn]
  exact ⟨rfl, transmit_lossfree cfg hl n d msg w hr⟩

/-- sending to oneself, to an unknown node or without a destination raises and changes nothing -/
theorem C08_invalid_refused (cfg : Config S) (hc : cfg.hasComm = true) (n : NodeId) (msg : String)
    (w : World S σ) :
    execReq cfg n (.send msg none) w = (w, false) ∧
    execReq cfg n (.send msg (some (n : Int))) w = (w, false) ∧
    (∀ d : Int, d < 0 ∨ d ≥ cfg.nNodes → execReq cfg n (.send msg (some d)) w = (w, false)) := by
  refine ⟨by rw [execReq_eq]; simp [verdict, hc], by rw [execReq_eq]; simp [verdict, hc], fun d hd => ?_⟩
  rw [execReq_eq]
  simp [verdict, hc, hd]

/-- an accepted broadcast with every other node in range creates exactly one event per other node, in
    node order: the delivery to that node, due at send time + max delay 0; none for the sender -/
theorem C08_broadcast (cfg : Config S) (hc : cfg.hasComm = true)
    (hl : Scalar.gt cfg.failRate (Scalar.ofInt 0) = false) (n : NodeId) (msg : String) (w : World S σ)
    (hr : ∀ d, d < cfg.nNodes → d ≠ n → inRange w n d = true) :
    (execReq cfg n (.broadcast msg) w).2 = true ∧
    ∃ new, (execReq cfg n (.broadcast msg) w).1.raccepted = new ++ w.raccepted ∧
      new.reverse.map (fun e => (e.ts, e.kind)) =
        ((List.range cfg.nNodes).filter (· ≠ n)).map
          (fun d => (w.loop.now + max cfg.delay 0, EvKind.deliver d n msg)) := by
  rw [execReq_broadcast cfg hc]
  exact ⟨rfl, broadcastTo_lossfree cfg hl n msg _ w (fun d hd hne => hr d (List.mem_range.mp hd) hne)⟩

/-- executing a delivery event is exactly one `handle_packet(msg)` on the addressee, reporting the
    event's time, with the payload unchanged -/
theorem C08_deliver_callback (cfg : Config S) (P : NodeId → Proto S σ) (ts : Int) (seq : Nat)
    (dst src : NodeId) (msg : String) (w : World S σ) :
    execEv cfg P ⟨ts, seq, .deliver dst src msg⟩ w = callback cfg P dst (.packet msg) w ∧
    ∃ l, (callback cfg P dst (.packet msg) w).rtrace =
        l ++ Obs.callback dst (.packet msg) (reportedTime cfg w) :: w.rtrace ∧
      ∀ o ∈ l, Obs.isRequestOf dst o :=
  -- on a delivery event `execEv` is, by `rfl`, the callback
  ⟨rfl, callback_rtrace cfg P dst (.packet msg) w⟩

/-- a `handle_packet` call happens only when a delivery event for that node with that payload is
    executed: no message is invented or handed to a non-addressee -/
theorem C08_packet_only_from_delivery (cfg : Config S) (P : NodeId → Proto S σ) (e : Ev (EvKind S))
    (w : World S σ) (n : NodeId) (m : String) (t : Int)
    (h : Obs.callback n (.packet m) t ∈ (execEv cfg P e w).rtrace)
    (hn : Obs.callback n (.packet m) t ∉ w.rtrace) : ∃ src, e.kind = .deliver n src m := by
  rcases execEv_callback_origin cfg P e w h hn with ⟨_, _, hc, _⟩ | ⟨src, _, hc, hk⟩ | ⟨_, hc, _⟩
  · cases hc
  · injection hc with hc; subst hc; exact ⟨src, hk⟩
  · cases hc

/-- For every node `dst`, payload `msg` and time `t`, in every reachable world:
    `handle_packet(msg)` on `dst` reporting `t` happens exactly by executing a delivery event for that
    node with that payload due at `t` — once per event, never otherwise — and every created delivery
    event is either still queued or was executed exactly once.
    (`cfg.hasComm` is not needed: without a communication handler all four counters are 0.) -/
theorem C08_run_count {cfg : Config S} (ht : cfg.hasTimer = true) (hdt : 0 ≤ cfg.dt)
    {P : NodeId → Proto S σ} {w : World S σ} (h : Reachable cfg P w) (dst : NodeId) (msg : String) (t : Int) :
    handledP w dst msg t = execdD w dst msg t ∧
    createdD w dst msg t = execdD w dst msg t + queuedD w dst msg t :=
  ⟨handledP_eq_execdD ht h.toT dst msg t, createdD_eq (reachable_inv hdt h) dst msg t⟩

/-- the run-level counting for every run of a *tolerant stepped driver* (`ReachableT`): after any number of
    steps out of which a callback's exception escaped, `handle_packet(msg)` calls on `dst` are still exactly the
    executed delivery events for `(dst, msg)`, every created delivery event is executed once or still queued,
    and the created ones never exceed the accepted `send(msg, dst)` plus the others' accepted `broadcast(msg)` -/
theorem C08_run_count_tolerant {cfg : Config S} (hdt : 0 ≤ cfg.dt)
    {P : NodeId → Proto S σ} {w : World S σ} (h : ReachableT cfg P w) (dst : NodeId) (msg : String) :
    handledTo w dst msg = execdTo w dst msg ∧
    createdTo w dst msg = execdTo w dst msg + queuedTo w dst msg ∧
    createdTo w dst msg ≤ accSendTo w dst msg + accBcastNotBy w dst msg :=
  ⟨handledTo_eq_execdTo h dst msg, createdTo_eq (reachableT_inv hdt h) dst msg, createdTo_le_addressed h dst msg⟩

/-- addressing, for every medium (loss and range only remove copies): the delivery events ever
    created for `(dst, msg)` are at most the accepted `send(msg, dst)` requests plus the accepted
    `broadcast(msg)` requests of nodes other than `dst`. Nothing is duplicated, invented, addressed to
    a non-addressee or to the sender. -/
theorem C08_run_addressees {cfg : Config S} {P : NodeId → Proto S σ} {w : World S σ}
    (h : Reachable cfg P w) (dst : NodeId) (msg : String) :
    createdTo w dst msg ≤ accSendTo w dst msg + accBcastNotBy w dst msg :=
  createdTo_le_addressed h.toT dst msg

/-- the same without the time: `handle_packet(msg)` calls on `dst` = executed delivery events for
    `(dst, msg)`; created = executed + queued. No hypothesis on the configuration at all. -/
theorem C08_run_count_any_time {cfg : Config S} (hdt : 0 ≤ cfg.dt)
    {P : NodeId → Proto S σ} {w : World S σ} (h : Reachable cfg P w) (dst : NodeId) (msg : String) :
    handledTo w dst msg = execdTo w dst msg ∧
    createdTo w dst msg = execdTo w dst msg + queuedTo w dst msg :=
  have h := C08_run_count_tolerant hdt h.toT dst msg
  ⟨h.1, h.2.1⟩

/-- "every `inRange` test made during the first `k` steps of the run succeeded": `RangeOkReq` holds in
    the world in which each `send` / `broadcast` request of the run is executed (`OkSteps` carries it
    through `step`, `execEv`, `callback`, `runProg`) -/
abbrev RangeOkRun (cfg : Config S) (P : NodeId → Proto S σ) (k : Nat) : Prop :=
  OkSteps (RangeOkReq cfg) cfg P k (init cfg P)

/-- loss-free medium and every range test along the run true: the addressing bound is an equality —
    every accepted `send(msg, dst)` and every accepted `broadcast(msg)` of another node created exactly
    one delivery event for `(dst, msg)`, and nothing else did -/
theorem C08_run_lossfree_equality {cfg : Config S} (hc : cfg.hasComm = true)
    (hl : Scalar.gt cfg.failRate (Scalar.ofInt 0) = false) {P : NodeId → Proto S σ} (k : Nat)
    (hok : RangeOkRun cfg P k) (dst : NodeId) (hdst : dst < cfg.nNodes) (msg : String) :
    createdTo (steps cfg P k (init cfg P)) dst msg =
      accSendTo (steps cfg P k (init cfg P)) dst msg + accBcastNotBy (steps cfg P k (init cfg P)) dst msg :=
  createdTo_eq_addressed hc hl k hok dst hdst msg

-- `hq` can be met only without a mobility handler: with one and `0 < cfg.dt` the next mobility update
-- is always queued (`MInv.ticks`), so no run reaches an empty queue
/-- C08 at run level: loss-free medium, every range test true, run exhausted (empty queue) — node
    `dst` handled the payload `msg` exactly once per accepted `send(msg, dst)` and per accepted
    `broadcast(msg)` of another node, and never otherwise -/
theorem C08_run_exactly_once {cfg : Config S} (hc : cfg.hasComm = true)
    (hl : Scalar.gt cfg.failRate (Scalar.ofInt 0) = false) (hdt : 0 ≤ cfg.dt) {P : NodeId → Proto S σ}
    (k : Nat) (hok : RangeOkRun cfg P k) (hq : (steps cfg P k (init cfg P)).loop.queue = [])
    (dst : NodeId) (hdst : dst < cfg.nNodes) (msg : String) :
    handledTo (steps cfg P k (init cfg P)) dst msg =
      accSendTo (steps cfg P k (init cfg P)) dst msg + accBcastNotBy (steps cfg P k (init cfg P)) dst msg := by
  have h1 := C08_run_lossfree_equality hc hl k hok dst hdst msg
  have h2 := C08_run_count_any_time hdt (P := P) (reachable_of_steps cfg P k) dst msg
  have hq0 : queuedTo (steps cfg P k (init cfg P)) dst msg = 0 := by unfold queuedTo; rw [hq]; rfl
  omega

/-- non-vacuity of `RangeOkRun`: it holds for every run when all nodes are always in range -/
example (cfg : Config S) (P : NodeId → Proto S σ) (k : Nat)
    (hall : ∀ (w : World S σ) (a b : NodeId), inRange w a b = true) : RangeOkRun cfg P k := by
  refine okSteps_of_forall (fun n r w => ?_) k _
  cases r with
  | send msg d => cases d <;> simp [RangeOkReq, hall]
  | broadcast msg => intro d _ _; exact hall w n d
  | _ => trivial

/-- non-vacuity: the refusal cases are reachable with a configured handler -/
example (cfg : Config S) (hc : cfg.hasComm = true) (w : World S σ) :
    (execReq cfg 0 (.send "m" none) w).2 = false := by
  rw [(C08_invalid_refused cfg hc 0 "m" w).1]

end C08
