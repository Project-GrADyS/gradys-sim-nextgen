import GradysProofs.Lemmas.Assertion
/-
  C18 — simulation assertions fail exactly when, and as soon as, they are violated.
  For every list of decorated assertions registered with one AssertionHandler, every set of nodes with
  their protocol types (`Nodes.isA`: the instance-of relation, so a node of a derived protocol class is a
  node of the stated base type), every timeline of predicate values and every run length N.
  `eager = true` is the repaired bookkeeping (patches/F18.patch), `eager = false` the pinned one.
-/

namespace C18
open Assertion

/-- after the event of iteration `i` the always-assertion `s` does not hold -/
def Violated (ns : Nodes) : Spec → Nat → Prop
  | .alwaysProto T pred, i => ∃ node, node < ns.n ∧ ns.isA node T = true ∧ pred i node = false
  | .alwaysSim pred, i => pred i = false
  | _, _ => False

/-- the eventually-assertion `s` was never true after any of the `N` executed events
    (for some node of its protocol type, when protocol-scoped) -/
def NeverMet (ns : Nodes) : Spec → Nat → Prop
  | .eventuallySim pred, N => ∀ j, j < N → pred j = false
  | .eventuallyProto T pred, N => ∃ node, node < ns.n ∧ ns.isA node T = true ∧ ∀ j, j < N → pred j node = false
  | _, _ => False

theorem violatedAt_iff (ns : Nodes) (s : Spec) (i : Nat) : s.violatedAt ns i = true ↔ Violated ns s i := by
  cases s <;> simp [Spec.violatedAt, Violated]

theorem neverMet_iff (ns : Nodes) (eager : Bool) (s : Spec) (N : Nat) :
    s.neverMet ns eager N = true ↔
      (NeverMet ns s N ∧ ((∃ T pred, s = .eventuallyProto T pred) → eager = true ∨ 0 < N)) := by
  cases s <;> simp [Spec.neverMet, NeverMet, everTrue_eq_false, and_comm]

theorem viol_iff (ns : Nodes) (specs : List Spec) (i : Nat) :
    viol ns specs i = true ↔ ∃ s, s ∈ specs ∧ Violated ns s i := by
  simp only [viol, List.any_eq_true, violatedAt_iff]

/-- the shape in which `List.find?_range_eq_some` speaks of the iterations before the first hit -/
theorem viol_false_iff (ns : Nodes) (specs : List Spec) (i : Nat) :
    (!viol ns specs i) = true ↔ ∀ s, s ∈ specs → ¬ Violated ns s i := by
  rw [Bool.not_eq_true', ← Bool.not_eq_true, viol_iff]
  exact ⟨fun h s hs hv => h ⟨s, hs, hv⟩, fun h ⟨s, hs, hv⟩ => h s hs hv⟩

/-- Always-assertions: the run is interrupted with a failure at iteration `i` iff `i` is the least
    executed iteration after which some always-assertion's predicate is false (for some node of its
    type); in particular there is no interrupting failure if there is none. -/
theorem C18_always (ns : Nodes) (eager : Bool) (specs : List Spec) (N i : Nat) :
    (run ns eager specs N).verdict = .failedAfter i ↔
      (i < N ∧ (∃ s, s ∈ specs ∧ Violated ns s i) ∧ ∀ j, j < i → ∀ s, s ∈ specs → ¬ Violated ns s j) := by
  rw [run_failedAfter_iff, List.find?_range_eq_some, List.mem_range]
  simp only [viol_iff, viol_false_iff]
  exact ⟨fun ⟨a, b, c⟩ => ⟨b, a, c⟩, fun ⟨b, a, c⟩ => ⟨a, b, c⟩⟩

/-- … and never otherwise -/
theorem C18_always_never_otherwise (ns : Nodes) (eager : Bool) (specs : List Spec) (N : Nat)
    (h : ∀ j, j < N → ∀ s, s ∈ specs → ¬ Violated ns s j) (i : Nat) :
    (run ns eager specs N).verdict ≠ .failedAfter i := by
  intro hv
  obtain ⟨h1, ⟨s, hs, hvi⟩, _⟩ := (C18_always ns eager specs N i).mp hv
  exact h i h1 s hs hvi

/-- Eventually-assertions, any handler: the run fails at finalisation iff no always-assertion
    interrupted it and some eventually-assertion was never met after any executed event — where the
    protocol-scoped ones, with the PINNED bookkeeping (`eager = false`), additionally need `0 < N`. -/
theorem C18_eventually (ns : Nodes) (eager : Bool) (specs : List Spec) (N : Nat) :
    (run ns eager specs N).verdict = .failedAtEnd ↔
      ((∀ j, j < N → ∀ s, s ∈ specs → ¬ Violated ns s j) ∧
       ∃ s, s ∈ specs ∧ NeverMet ns s N ∧ ((∃ T pred, s = .eventuallyProto T pred) → eager = true ∨ 0 < N)) := by
  rw [run_failedAtEnd_iff, List.find?_range_eq_none]
  simp only [viol_false_iff, endFail, List.any_eq_true, neverMet_iff]

/-- a single assertion of an eventually kind: nothing can interrupt the run -/
theorem eventually_single (ns : Nodes) (eager : Bool) (s : Spec) (hs : ∀ j, ¬ Violated ns s j) (N : Nat) :
    (run ns eager [s] N).verdict = .failedAtEnd ↔
      NeverMet ns s N ∧ ((∃ T pred, s = .eventuallyProto T pred) → eager = true ∨ 0 < N) := by
  rw [C18_eventually]
  simp [hs]

/-- simulation-scoped: fails at finalisation iff the predicate was false after every executed event
    (with zero events: fails) -/
theorem C18_eventually_sim (ns : Nodes) (eager : Bool) (pred : Nat → Bool) (N : Nat) :
    (run ns eager [.eventuallySim pred] N).verdict = .failedAtEnd ↔ ∀ j, j < N → pred j = false := by
  rw [eventually_single ns eager _ fun _ => id]
  simp [NeverMet]

/-- protocol-scoped, REPAIRED bookkeeping — the full statement: fails at finalisation iff some node of
    type `T` had the predicate false after every executed event (with zero events: iff there is a node
    of type `T`) -/
theorem C18_eventually_proto (ns : Nodes) (T : PType) (pred : Nat → NodeId → Bool) (N : Nat) :
    (run ns true [.eventuallyProto T pred] N).verdict = .failedAtEnd ↔
      ∃ node, node < ns.n ∧ ns.isA node T = true ∧ ∀ j, j < N → pred j node = false := by
  rw [eventually_single ns true _ fun _ => id]
  simp [NeverMet]

/-- protocol-scoped, PINNED bookkeeping: the same, for runs with at least one executed event.
    FULL statement (no `1 ≤ N`): false for the pinned code, see `C18_eventually_proto_zero_events`. -/
theorem C18_eventually_proto_partial (ns : Nodes) (T : PType) (pred : Nat → NodeId → Bool) (N : Nat)
    (hN : 1 ≤ N) :
    (run ns false [.eventuallyProto T pred] N).verdict = .failedAtEnd ↔
      ∃ node, node < ns.n ∧ ns.isA node T = true ∧ ∀ j, j < N → pred j node = false := by
  rw [eventually_single ns false _ fun _ => id]
  simp [NeverMet, Nat.lt_of_succ_le hN]

/-- Finding F18: with zero executed events, one node of the asserted type and a predicate that is
    never true, the pinned code PASSES (its per-node dictionary is still empty) … -/
theorem C18_eventually_proto_zero_events :
    (run ⟨1, fun _ T => T == 0⟩ false [.eventuallyProto 0 (fun _ _ => false)] 0) = ⟨0, .passed⟩ ∧
    (run ⟨1, fun _ T => T == 0⟩ false [.eventuallySim (fun _ => false)] 0) = ⟨0, .failedAtEnd⟩ ∧
    (run ⟨1, fun _ T => T == 0⟩ true [.eventuallyProto 0 (fun _ _ => false)] 0) = ⟨0, .failedAtEnd⟩ := by
  decide

/-- … so the full statement, without `1 ≤ N`, is false for the pinned bookkeeping -/
theorem C18_eventually_proto_unguarded_false :
    ¬ (∀ (ns : Nodes) (T : PType) (pred : Nat → NodeId → Bool) (N : Nat),
        (run ns false [.eventuallyProto T pred] N).verdict = .failedAtEnd ↔
          ∃ node, node < ns.n ∧ ns.isA node T = true ∧ ∀ j, j < N → pred j node = false) := by
  intro h
  have h0 := (h ⟨1, fun _ T => T == 0⟩ 0 (fun _ _ => false) 0).mpr ⟨0, by decide, rfl, fun _ _ => rfl⟩
  exact absurd h0 (by decide)

/-- After an interrupting failure the run executes no further event: exactly the events of
    iterations 0 … i ran; a run that is not interrupted executes all `N`. -/
theorem C18_no_event_after_failure (ns : Nodes) (eager : Bool) (specs : List Spec) (N : Nat) :
    (∀ i, (run ns eager specs N).verdict = .failedAfter i → (run ns eager specs N).executed = i + 1 ∧ i + 1 ≤ N) ∧
    ((∀ i, (run ns eager specs N).verdict ≠ .failedAfter i) → (run ns eager specs N).executed = N) := by
  refine ⟨fun i hv => ?_, fun hn => ?_⟩
  · rw [run_failedAfter_iff] at hv
    rw [run_executed, hv]
    exact ⟨rfl, List.mem_range.mp (List.find?_range_eq_some.mp hv).2.1⟩
  · rw [run_executed]
    split
    · exact absurd ((run_failedAfter_iff ..).mpr ‹_›) (hn _)
    · rfl

/-- three nodes of types 0,1,0; the predicate of node 2 (the LAST node of type 0) turns false after
    the event of iteration 2 -/
def mixed : Nodes := ⟨3, fun n T => T == (if n = 1 then 1 else 0)⟩

example : run mixed true [.alwaysProto 0 (fun i n => !(n == 2 && i ≥ 2)), .eventuallySim (fun _ => false)] 5
    = ⟨3, .failedAfter 2⟩ := by decide

/-- the same predicate asserted for type 1 never fails; the eventually-assertion is met at iteration 4 -/
example : run mixed true [.alwaysProto 1 (fun i n => !(n == 2 && i ≥ 2)), .eventuallyProto 0 (fun i _ => i == 4)] 5
    = ⟨5, .passed⟩ := by decide

/-- … and is missed when the run stops one event earlier -/
example : run mixed false [.alwaysProto 1 (fun i n => !(n == 2 && i ≥ 2)), .eventuallyProto 0 (fun i _ => i == 4)] 4
    = ⟨4, .failedAtEnd⟩ := by decide

/-- a class hierarchy: nodes 0 and 2 run class 0, node 1 runs class 1, both derive from class 7 (a common base
    protocol).  An always-assertion stated for the BASE class is violated by a node of a derived class … -/
def derived : Nodes := Nodes.ofClasses 3 (fun n => if n = 1 then 1 else 0) (fun _ T => T == 7)

example : run derived true [.alwaysProto 7 (fun i n => !(n == 1 && i ≥ 2))] 5 = ⟨3, .failedAfter 2⟩ := by decide

/-- … stated for class 0 the same predicate never fails (node 1 is no instance of class 0); an
    eventually-assertion stated for the base class waits for the nodes of every derived class -/
example : run derived true [.alwaysProto 0 (fun i n => !(n == 1 && i ≥ 2)),
    .eventuallyProto 7 (fun i n => i == n)] 3 = ⟨3, .passed⟩ := by decide

example : run derived true [.eventuallyProto 7 (fun i n => i == n)] 2 = ⟨2, .failedAtEnd⟩ := by decide

end C18
