import GradysProofs.Lemmas.ELHist
import GradysProofs.Lemmas.SimInv
import GradysProofs.Lemmas.HeapRefine
/-
  C02 — every scheduled event runs exactly once; nothing is lost, duplicated or invented.
-/
set_option linter.unusedSectionVars false

namespace C02
variable {K : Type}

/-! ### A. the bare event loop, for every history of schedule / pop / peek / clear / len -/

/-- after any history, popped ++ queued ++ dropped-by-clear is a permutation of the accepted
    requests: no loss, no duplication, no invention. -/
theorem C02_history_perm (ops : List (ELOp K)) :
    let g := (ELG.init : ELG K).run ops
    (g.popped ++ g.l.queue ++ g.dropped).Perm g.accepted :=
  (ELG.run_inv _ ops ELG.init_inv).perm

/-- `len` = accepted − popped − dropped, after every history (and the ghost loop IS the loop the
    driver runs: `ELG.run_init_l`). -/
theorem C02_len_conservation (ops : List (ELOp K)) :
    let g := (ELG.init : ELG K).run ops
    ((EL.empty : EL K).run ops).1.len + g.popped.length + g.dropped.length = g.accepted.length := by
  intro g
  have h : (g.popped ++ g.l.queue ++ g.dropped).length = g.accepted.length :=
    (C02_history_perm ops).length_eq
  have hl : ((EL.empty : EL K).run ops).1 = g.l := ELG.run_init_l ops
  rw [hl]
  simp only [List.length_append] at h
  unfold EL.len
  omega

/-- a refused request leaves the loop exactly as it was; it is refused iff it is for the past
    (resp. the queue is empty). -/
theorem C02_refused_is_noop (l : EL K) :
    (∀ ts k, (l.apply (.schedule ts k)).2 = .err .past ↔ ts < l.now) ∧
    (∀ ts k, ts < l.now → (l.apply (.schedule ts k)).1 = l) ∧
    ((l.apply .pop).2 = .err .empty ↔ l.queue = []) ∧
    (l.queue = [] → (l.apply .pop).1 = l) := by
  refine ⟨?_, ?_, ?_, ?_⟩
  · intro ts k
    by_cases h : ts < l.now <;> simp [EL.apply, EL.schedule, h]
  · intro ts k h
    simp [EL.apply, EL.schedule, h]
  · simp only [EL.apply, EL.pop]
    cases l.queue <;> simp
  · intro h
    simp [EL.apply, EL.pop, h]

/-- `peek`, `len`, `now` never change the loop, and `peek` shows exactly the event `pop` would return. -/
theorem C02_peek_nondestructive (l : EL K) :
    (l.apply .peek).1 = l ∧ (l.apply .len).1 = l ∧ (l.apply .now).1 = l ∧
    (∀ e, l.peek = some e ↔ ∃ l', l.pop = .ok (e, l')) ∧
    (l.peek = none ↔ l.pop = .error .empty) := by
  refine ⟨rfl, rfl, rfl, fun e => ?_, ?_⟩
  · simp only [EL.peek, EL.pop]
    cases l.queue <;> simp
  · simp only [EL.peek, EL.pop]
    cases l.queue <;> simp

/-- an accepted `schedule` adds exactly the new event; a successful `pop` removes exactly the
    returned one. -/
theorem C02_pop_perm (l : EL K) :
    (∀ ts k l', l.schedule ts k = .ok l' → l'.queue.Perm (⟨ts, l.nextSeq, k⟩ :: l.queue)) ∧
    (∀ e l', l.pop = .ok (e, l') → l.queue = e :: l'.queue) := by
  refine ⟨?_, ?_⟩
  · intro ts k l' h
    simp only [EL.schedule] at h
    split at h
    · cases h
    · injection h with h; subst h
      exact insertEv_perm _ _
  · exact fun e l' => EL.queue_of_pop

/-- conservation on the real heap: run any history on the event loop whose queue is the port of
    `heapq.py` (`HEL`, `GradysModel/Heap.lean`). Its outputs are those of the list loop (so the
    popped events are the same), and popped ++ heap contents ++ dropped-by-clear is a permutation of
    the accepted requests: the heap neither loses, duplicates nor invents an event. -/
theorem C02_heapq_conserves (ops : List (ELOp K)) :
    let g := (ELG.init : ELG K).run ops
    let hl := ((HEL.empty : HEL K).run ops).1
    ((HEL.empty : HEL K).run ops).2 = ((EL.empty : EL K).run ops).2 ∧
    (g.popped ++ hl.heap.toList ++ g.dropped).Perm g.accepted := by
  intro g hl
  obtain ⟨hout, hrel⟩ := (HRel.empty (K := K)).run ops
  refine ⟨hout, ?_⟩
  have hp : hl.heap.toList.Perm g.l.queue := ELG.run_init_l ops ▸ hrel.rel.2.1
  exact (List.Perm.append_right _ (List.Perm.append_left _ hp)).trans (C02_history_perm ops)

/-! ### B. the simulator, for every configuration and every protocol program -/
open Sim
variable {S σ : Type} [Scalar S]

/-- for every run of a tolerant stepped driver (steps, externally issued requests and steps out
    of which an exception escaped, in any order): executed ++ queued is a duplicate-free, ordered permutation
    of the accepted requests, executed timestamps never decrease, nothing queued lies in the past -/
theorem C02_exec_exactly_once_tolerant {cfg : Config S} (hdt : 0 ≤ cfg.dt) {P : NodeId → Proto S σ}
    {w : World S σ} (h : ReachableT cfg P w) :
    (w.rexecuted ++ w.loop.queue).Perm w.raccepted ∧
    w.executed.Pairwise (fun a b => a.ts ≤ b.ts) ∧
    (∀ e ∈ w.loop.queue, w.loop.now ≤ e.ts) := by
  have inv := reachableT_inv hdt h
  exact ⟨inv.perm, inv.executed_mono, inv.ge_now⟩

/-- at every point of every run, executed ++ queued is a permutation of the accepted scheduling
    requests -/
theorem C02_exec_exactly_once {cfg : Config S} (hdt : 0 ≤ cfg.dt) {P : NodeId → Proto S σ}
    {w : World S σ} (h : Reachable cfg P w) : (w.rexecuted ++ w.loop.queue).Perm w.raccepted :=
  (C02_exec_exactly_once_tolerant hdt h.toT).1

/-- ... and no event is in that list twice: all of executed ++ queued are pairwise distinct
    (strictly ordered by (ts, seq)), so nothing executes twice and nothing executed is still queued -/
theorem C02_no_duplicates {cfg : Config S} (hdt : 0 ≤ cfg.dt) {P : NodeId → Proto S σ}
    {w : World S σ} (h : Reachable cfg P w) : (w.executed ++ w.loop.queue).Pairwise keyLt := by
  have inv := reachable_inv hdt h
  exact List.pairwise_append.mpr ⟨inv.executed_sorted, inv.sorted,
    fun a ha b hb => inv.exec_lt_queue a (World.mem_executed.mp ha) b hb⟩

/-- the number of queued events always equals accepted requests minus executed ones -/
theorem C02_queue_count {cfg : Config S} (hdt : 0 ≤ cfg.dt) {P : NodeId → Proto S σ}
    {w : World S σ} (h : Reachable cfg P w) :
    w.loop.queue.length + w.rexecuted.length = w.raccepted.length := by
  have := (C02_exec_exactly_once hdt h).length_eq
  simp only [List.length_append] at this
  omega

-- an empty queue can be met only without a mobility handler: with one and `0 < cfg.dt` the next mobility
-- update is always queued (`MInv.ticks`)
/-- when a run has exhausted its events, the executed events are exactly the accepted ones -/
theorem C02_exhaustion {cfg : Config S} (hdt : 0 ≤ cfg.dt) {P : NodeId → Proto S σ}
    {w : World S σ} (h : Reachable cfg P w) (hq : w.loop.queue = []) : w.rexecuted.Perm w.raccepted := by
  have := C02_exec_exactly_once hdt h
  rwa [hq, List.append_nil] at this

/-- What an EXTERNAL controller does between two steps is accounted for like everything else: after any
    request program issued through a node's provider from outside any callback, at any moment of the run,
    executed ++ queued is still a duplicate-free permutation of the accepted requests; and a request
    such a program has refused leaves the event loop untouched (the program's world only grows by
    accepted events). -/
theorem C02_external_requests_accounted {cfg : Config S} (hdt : 0 ≤ cfg.dt) {P : NodeId → Proto S σ}
    {w : World S σ} (h : Reachable cfg P w) (n : NodeId) (p : Prog S σ) :
    ((runProg cfg n p w).1.rexecuted ++ (runProg cfg n p w).1.loop.queue).Perm (runProg cfg n p w).1.raccepted ∧
    ((runProg cfg n p w).1.executed ++ (runProg cfg n p w).1.loop.queue).Pairwise keyLt ∧
    (runProg cfg n p w).1.rexecuted = w.rexecuted ∧ (runProg cfg n p w).1.loop.now = w.loop.now :=
  ⟨C02_exec_exactly_once hdt (h.ext n p), C02_no_duplicates hdt (h.ext n p),
    ((Ext.lifecycle cfg).runProg n p w).rexecuted, ((Ext.lifecycle cfg).runProg n p w).now⟩

/-- A step out of which the executed event's callback lets an exception escape (`Sim.stepRaised`: the event
    is consumed and its callback ran as far as it got, the hooks and the completion check are skipped, the
    caller catches the exception and keeps driving): the accounting survives it - executed ++ queued is still
    a duplicate-free, ordered permutation of the accepted requests, nothing queued is in the past, and the
    clock did not go back. Whatever the driver does afterwards starts from a sound world. -/
theorem C02_raised_step_accounted {cfg : Config S} (hdt : 0 ≤ cfg.dt) (P : NodeId → Proto S σ)
    {w : World S σ} (hw : WInv w) :
    WInv (stepRaised cfg P w) ∧ w.loop.now ≤ (stepRaised cfg P w).loop.now :=
  stepRaised_inv cfg hdt P w hw

/-- non-vacuity: a raised step in the middle of a run -/
example (cfg : Config S) (P : NodeId → Proto S σ) :
    ReachableT cfg P (step cfg P (stepRaised cfg P (step cfg P (init cfg P)).1)).1 :=
  ((ReachableT.init.step).raised).step

/-- non-vacuity of `C02_external_requests_accounted`: steps and external programs interleave freely -/
example (cfg : Config S) (P : NodeId → Proto S σ) (n : NodeId) (p q : Prog S σ) :
    Reachable cfg P (step cfg P (runProg cfg n q (step cfg P (runProg cfg n p (init cfg P)).1).1).1).1 :=
  (((Reachable.init.ext n p).step).ext n q).step

/-- non-vacuity: a three-call history whose invariant instance is non-trivial -/
example : ((EL.empty : EL Nat).run [.schedule 5 0, .schedule 5 1, .pop]).1.len = 1 := by decide

end C02
