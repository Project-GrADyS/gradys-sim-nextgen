import Mathlib.MeasureTheory.Measure.Lebesgue.Basic
import GradysProofs.Lemmas.Medium
import GradysProofs.Lemmas.SimInv
import GradysProofs.RealScalar
/-
  C10 — the medium loses messages only as configured and never duplicates or revives one.

  `Sim.consumeDraw` + `Sim.inRange` are `CommunicationHandler.can_transmit`
  (gradysim/simulator/handler/communication.py:164-174): one `random.random()` per (message, receiver)
  iff `failure_rate > 0`; the copy passes iff `draw > failure_rate`.  The values successive
  `random.random()` calls return are the oracle stream `cfg.draws`; every theorem is for every stream.
  `C10_frequency` is the measure of the losing draws under the uniformity assumption (trusted base T3).
-/
set_option linter.unusedSectionVars false
set_option linter.unusedVariables false

namespace C10
open Sim RealScalar

section anyScalar
variable {S σ : Type} [Scalar S]

/-- lossy medium (`failure_rate > 0`): one copy consumes exactly one draw, `u = draws drawIdx`, and
    its delivery is scheduled (one event, at the normal due time) iff `u > failure_rate` and it is
    in range; otherwise neither the accepted-event list nor the queue changes — a lost copy creates no
    event at all, so by conservation (`C10_never_revived`) it can never appear later. -/
theorem C10_fate (cfg : Config S) (hfr : Scalar.gt cfg.failRate (Scalar.ofInt 0) = true)
    (src dst : NodeId) (msg : String) (w : World S σ) :
    (transmit cfg src dst msg w).drawIdx = w.drawIdx + 1 ∧
    ((transmit cfg src dst msg w).raccepted =
      if Scalar.gt (cfg.draws w.drawIdx) cfg.failRate && inRange w src dst then
        ⟨w.loop.now + max cfg.delay 0, w.loop.nextSeq, .deliver dst src msg⟩ :: w.raccepted
      else w.raccepted) ∧
    ((transmit cfg src dst msg w).loop.queue =
      if Scalar.gt (cfg.draws w.drawIdx) cfg.failRate && inRange w src dst then
        insertEv ⟨w.loop.now + max cfg.delay 0, w.loop.nextSeq, .deliver dst src msg⟩ w.loop.queue
      else w.loop.queue) := by
  refine ⟨?_, ?_, ?_⟩
  · rw [transmit_drawIdx, drawCost_lossy hfr]
  · rw [transmit_accepted, deliveryEv_eq, copyDelivered_lossy hfr]
  · rw [transmit_queue, deliveryEv_eq, copyDelivered_lossy hfr]

/-- a lost copy (draw `≤` rate, or out of range) leaves every event structure as it was -/
theorem C10_lost_no_event (cfg : Config S) (hfr : Scalar.gt cfg.failRate (Scalar.ofInt 0) = true)
    (src dst : NodeId) (msg : String) (w : World S σ)
    (hl : (Scalar.gt (cfg.draws w.drawIdx) cfg.failRate && inRange w src dst) = false) :
    (transmit cfg src dst msg w).raccepted = w.raccepted ∧
    (transmit cfg src dst msg w).loop = w.loop := by
  rw [transmit_eq, copyDelivered_lossy hfr, hl]
  exact ⟨rfl, rfl⟩

/-- never duplicated, never revived: at every reachable world, for every protocol program, every
    event that was executed or is queued is one of the accepted scheduling requests, exactly once
    (executed ++ queued is a permutation of the accepted list, which has no repetition).  A lost copy
    added nothing to that list (`C10_fate`), a delivered copy exactly one entry. -/
theorem C10_never_revived {cfg : Config S} (hdt : 0 ≤ cfg.dt) {P : NodeId → Proto S σ}
    {w : World S σ} (h : Reachable cfg P w) :
    (w.rexecuted ++ w.loop.queue).Perm w.raccepted ∧
    (∀ e, e ∈ w.rexecuted ∨ e ∈ w.loop.queue → e ∈ w.raccepted) ∧
    w.raccepted.Pairwise (fun a b => b.seq < a.seq) := by
  have inv := reachable_inv hdt h
  refine ⟨inv.perm, ?_, inv.acc_sorted⟩
  intro e he
  exact inv.perm.subset (List.mem_append.mpr he)

/-- loss-free medium (`failure_rate ≤ 0`): no draw is consumed and the copy is delivered iff it is
    in range — no in-range copy is lost -/
theorem C10_rate_zero (cfg : Config S) (hfr : Scalar.gt cfg.failRate (Scalar.ofInt 0) = false)
    (src dst : NodeId) (msg : String) (w : World S σ) :
    (transmit cfg src dst msg w).drawIdx = w.drawIdx ∧
    ((transmit cfg src dst msg w).raccepted =
      if inRange w src dst then
        ⟨w.loop.now + max cfg.delay 0, w.loop.nextSeq, .deliver dst src msg⟩ :: w.raccepted
      else w.raccepted) := by
  refine ⟨?_, ?_⟩
  · rw [transmit_drawIdx, drawCost_lossfree hfr]; rfl
  · rw [transmit_accepted, deliveryEv_eq, copyDelivered_lossfree hfr]

/-- the destinations of a broadcast whose copy is delivered, as a function of the draw stream: the
    copy for the `i`-th destination (counting from the draw index `k`) looks at draw `k + i` only -/
def deliveredDsts (cfg : Config S) (w : World S σ) (src : NodeId) (k : Nat) (dsts : List NodeId) :
    List NodeId :=
  ((dsts.zipIdx k).filter
    (fun p => Scalar.gt (cfg.draws p.2) cfg.failRate && inRange w src p.1)).map Prod.fst

/-- lossy medium, broadcast over destinations `d₁ … d_k` (all `≠ src`): the `i`-th copy consumes
    draw `drawIdx + i` and is delivered iff THAT draw exceeds the rate and ITS destination is in range
    of the sender (geometry of the world at the broadcast) — no copy's fate depends on another copy's
    draw or geometry.  In total `k` draws are consumed and the accepted events grow by exactly the
    deliveries to `deliveredDsts`, in destination order, all due at the normal time. -/
theorem C10_broadcast_independent (cfg : Config S)
    (hfr : Scalar.gt cfg.failRate (Scalar.ofInt 0) = true) (src : NodeId) (msg : String)
    (dsts : List NodeId) (hne : ∀ d ∈ dsts, d ≠ src) (w : World S σ) :
    (broadcastTo cfg src msg dsts w).drawIdx = w.drawIdx + dsts.length ∧
    (broadcastTo cfg src msg dsts w).raccepted.map (fun e => (e.ts, e.kind)) =
      ((deliveredDsts cfg w src w.drawIdx dsts).map
        (fun d => (w.loop.now + max cfg.delay 0, EvKind.deliver d src msg))).reverse ++
      w.raccepted.map (fun e => (e.ts, e.kind)) ∧
    (broadcastTo cfg src msg dsts w).pos = w.pos ∧ (broadcastTo cfg src msg dsts w).range = w.range ∧
    (broadcastTo cfg src msg dsts w).loop.now = w.loop.now := by
  -- the last three clauses are the medium's frame; the draws and the accepted events go by induction
  suffices h : _ ∧ _ from
    have fr := broadcastTo_frame cfg src msg dsts w
    ⟨h.1, h.2, fr.pos, fr.range, fr.now⟩
  induction dsts generalizing w with
  | nil => simp [broadcastTo_nil, deliveredDsts]
  | cons d ds ih =>
    have hd : d ≠ src := hne d (List.mem_cons_self)
    obtain ⟨f1, f2, _⟩ := C10_fate cfg hfr src d msg w
    have g := transmit_frame cfg src d msg w
    obtain ⟨i1, i2⟩ := ih (fun x hx => hne x (List.mem_cons_of_mem _ hx)) (transmit cfg src d msg w)
    have hdel : deliveredDsts cfg (transmit cfg src d msg w) src (w.drawIdx + 1) ds =
        deliveredDsts cfg w src (w.drawIdx + 1) ds := by
      unfold deliveredDsts; simp only [g.inRange src]
    rw [broadcastTo_cons cfg src msg d ds w, if_neg hd]
    refine ⟨?_, ?_⟩
    · rw [i1, f1, List.length_cons]; omega
    · rw [i2, f1, hdel, g.now, f2]
      unfold deliveredDsts
      rw [List.zipIdx_cons, List.filter_cons]
      cases hb : (Scalar.gt (cfg.draws w.drawIdx) cfg.failRate && inRange w src d) <;> simp

/-- the broadcast a protocol issues (`execReq … (.broadcast msg)`) runs over all nodes and skips the
    sender, so it is `C10_broadcast_independent` over the other nodes in id order -/
theorem C10_broadcast_request (cfg : Config S) (hc : cfg.hasComm = true) (n : NodeId) (msg : String)
    (w : World S σ) :
    execReq cfg n (.broadcast msg) w =
      (broadcastTo cfg n msg ((List.range cfg.nNodes).filter (fun d => d ≠ n)) w, true) ∧
    ∀ d ∈ (List.range cfg.nNodes).filter (fun d => d ≠ n), d ≠ n := by
  constructor
  · rw [execReq_broadcast cfg hc, broadcastTo_filter]
  · intro d hd
    simpa using (List.mem_filter.mp hd).2

end anyScalar

/-- `failure_rate ≥ 1` and every draw in `[0,1)`: no copy is ever delivered, whatever the stream -/
theorem C10_rate_one {σ : Type} (cfg : Config ℝ) (hfr : 1 ≤ cfg.failRate)
    (hdraws : ∀ i, 0 ≤ cfg.draws i ∧ cfg.draws i < 1) (src dst : NodeId) (msg : String)
    (w : World ℝ σ) :
    (transmit cfg src dst msg w).raccepted = w.raccepted ∧
    (transmit cfg src dst msg w).loop = w.loop := by
  have h0 : Scalar.gt cfg.failRate (Scalar.ofInt 0) = true := by
    rw [gt_eq, ofInt_eq]; push_cast; linarith
  have hl : Scalar.gt (cfg.draws w.drawIdx) cfg.failRate = false := by
    cases hb : Scalar.gt (cfg.draws w.drawIdx) cfg.failRate
    · rfl
    · rw [gt_eq] at hb; have := (hdraws w.drawIdx).2; linarith
  exact C10_lost_no_event cfg h0 src dst msg w (by rw [hl]; rfl)

/-- the reading of the guards over ℝ: `failure_rate > 0` / `≤ 0`, `draw > rate` -/
theorem C10_guards_real (fr u : ℝ) :
    (Scalar.gt fr (Scalar.ofInt 0) = true ↔ 0 < fr) ∧
    (Scalar.gt fr (Scalar.ofInt 0) = false ↔ fr ≤ 0) ∧
    (Scalar.gt u fr = true ↔ fr < u) := by
  refine ⟨?_, ?_, ?_⟩
  · rw [gt_eq, ofInt_eq]; push_cast; rfl
  · rw [← not_iff_not, Bool.not_eq_false, gt_eq, ofInt_eq]; push_cast; exact not_le.symm
  · exact gt_eq u fr

open MeasureTheory in
/-- the losing draws: for a rate `0 ≤ r ≤ 1`, the set of `u ∈ [0,1)` with `¬ (u > r)` has Lebesgue
    measure `r` — under the uniformity assumption on `random.random()` (T3) a copy is lost with
    probability exactly the configured rate (and passes with probability `1 − r`) -/
theorem C10_frequency (r : ℝ) (h0 : 0 ≤ r) (h1 : r ≤ 1) :
    volume {u : ℝ | u ∈ Set.Ico (0 : ℝ) 1 ∧ ¬ (Scalar.gt u r = true)} = ENNReal.ofReal r ∧
    volume {u : ℝ | u ∈ Set.Ico (0 : ℝ) 1 ∧ Scalar.gt u r = true} = ENNReal.ofReal (1 - r) := by
  constructor
  · rcases lt_or_eq_of_le h1 with hlt | heq
    · have : {u : ℝ | u ∈ Set.Ico (0 : ℝ) 1 ∧ ¬ (Scalar.gt u r = true)} = Set.Icc 0 r := by
        ext u
        simp only [Set.mem_ofPred_eq, Set.mem_Ico, Set.mem_Icc, gt_eq, not_lt]
        constructor
        · rintro ⟨⟨a, _⟩, c⟩; exact ⟨a, c⟩
        · rintro ⟨a, c⟩; exact ⟨⟨a, lt_of_le_of_lt c hlt⟩, c⟩
      rw [this, Real.volume_Icc, sub_zero]
    · have : {u : ℝ | u ∈ Set.Ico (0 : ℝ) 1 ∧ ¬ (Scalar.gt u r = true)} = Set.Ico 0 1 := by
        ext u
        simp only [Set.mem_ofPred_eq, Set.mem_Ico, gt_eq, not_lt]
        constructor
        · rintro ⟨h, _⟩; exact h
        · rintro ⟨a, b⟩; exact ⟨⟨a, b⟩, by rw [heq]; exact b.le⟩
      rw [this, Real.volume_Ico, heq, sub_zero]
  · have : {u : ℝ | u ∈ Set.Ico (0 : ℝ) 1 ∧ Scalar.gt u r = true} = Set.Ioo r 1 := by
      ext u
      simp only [Set.mem_ofPred_eq, Set.mem_Ico, Set.mem_Ioo, gt_eq]
      constructor
      · rintro ⟨⟨_, b⟩, c⟩; exact ⟨c, b⟩
      · rintro ⟨c, b⟩; exact ⟨⟨le_trans h0 c.le, b⟩, c⟩
    rw [this, Real.volume_Ioo]

/-- three nodes, all in range (range 100), failure rate 1/2, draws 0.75, 0.25, 0.5, … -/
noncomputable def exCfg : Config ℝ :=
  { nNodes := 3, hasTimer := true, hasComm := true, hasMob := false, handlers := [],
    duration := none, maxIter := none, delay := 0, failRate := 1 / 2, defaultRange := 100,
    dt := 1, dtS := 1, defaultSpeed := 10, refGeo := ⟨0, 0, 0⟩, initPos := fun _ => ⟨0, 0, 0⟩,
    draws := fun i => if i = 0 then 3 / 4 else if i = 1 then 1 / 4 else 1 / 2 }

/-- in a broadcast from node 0 the copy for node 1 (draw 3/4 > 1/2) passes its draw, the copy for
    node 2 (draw 1/4) and a draw exactly equal to the rate (1/2) do not -/
example : Scalar.gt exCfg.failRate (Scalar.ofInt 0) = true ∧
    Scalar.gt (exCfg.draws 0) exCfg.failRate = true ∧
    Scalar.gt (exCfg.draws 1) exCfg.failRate = false ∧
    Scalar.gt (exCfg.draws 2) exCfg.failRate = false := by
  refine ⟨?_, ?_, ?_, ?_⟩
  · rw [gt_eq, ofInt_eq]; simp [exCfg]
  · rw [gt_eq]; simp [exCfg]; norm_num
  · rw [← Bool.not_eq_true, gt_eq]; simp [exCfg]; norm_num
  · rw [← Bool.not_eq_true, gt_eq]; simp [exCfg]

end C10
