import GradysProofs.Lemmas.SimLife
import GradysProofs.Lemmas.SimTrace
import GradysProofs.Lemmas.SimRun
/-
  C04 — a run stops exactly at its bounds: duration, iteration limit, or exhaustion.
  `isDone` is the repaired rule (the NEXT event's time is compared with the duration).
-/
set_option linter.unusedSectionVars false

namespace C04
open Sim
variable {S σ : Type} [Scalar S]

/-- the termination predicate, spelled out -/
theorem C04_isDone_iff (cfg : Config S) (w : World S σ) :
    isDone cfg w = true ↔
      w.loop.queue = [] ∨
      (∃ e rest D, w.loop.queue = e :: rest ∧ cfg.duration = some D ∧ D < e.ts) ∨
      (∃ N, cfg.maxIter = some N ∧ N ≤ w.iter) := by
  cases hq : w.loop.queue with
  | nil => simp [isDone_nil hq]
  | cons e rest =>
    rw [isDone_cons cfg hq]
    cases hd : cfg.duration <;> cases hn : cfg.maxIter <;> simp

/-- `now` is guarded by `0 ≤ D`: the clock starts at 0, whatever the duration -/
structure BInv (cfg : Config S) (w : World S σ) : Prop where
  dur : ∀ D, cfg.duration = some D → ∀ e ∈ w.rexecuted, e.ts ≤ D
  iter : ∀ N, cfg.maxIter = some N → w.rexecuted ≠ [] → w.iter ≤ N
  now : ∀ D, cfg.duration = some D → 0 ≤ D → w.loop.now ≤ D

theorem init_binv (cfg : Config S) (P : NodeId → Proto S σ) : BInv cfg (init cfg P) :=
  init_ind (by constructor <;> simp [init0, EL.empty]) (fun h => ⟨h.dur, h.iter, h.now⟩)

/-- the invariant reads the executed events, the counter and the clock: only the pop and the end of a
    step that executed an event write them -/
theorem BInv.ext {cfg : Config S} {w w' : World S σ} (e : Ext cfg w w') (h : BInv cfg w)
    (hi : w'.iter = w.iter) : BInv cfg w' := by
  constructor
  · intro D hD x hx; rw [e.rexecuted] at hx; exact h.dur D hD x hx
  · intro N hN hne; rw [e.rexecuted] at hne; rw [hi]; exact h.iter N hN hne
  · intro D hD h0; rw [e.now]; exact h.now D hD h0

/-- `w'.iter ≤ w.iter + 1` covers the raised and the normal step -/
theorem BInv.exec {cfg : Config S} {w w' : World S σ} {e : Ev (EvKind S)} {rest : List (Ev (EvKind S))}
    (h : BInv cfg w) (hq : w.loop.queue = e :: rest) (hnd : isDone cfg w = false)
    (hx : Ext cfg (popped e rest w) w') (hi : w'.iter ≤ w.iter + 1) : BInv cfg w' := by
  obtain ⟨hd, hn⟩ := (isDone_cons_false_iff cfg hq).mp hnd
  constructor
  · intro D hD x hx'
    rw [hx.rexecuted] at hx'
    rcases List.mem_cons.mp hx' with rfl | hx'
    · exact hd D hD
    · exact h.dur D hD x hx'
  · intro N hN _
    exact Nat.le_trans hi (hn N hN)
  · intro D hD _
    rw [hx.now]
    exact hd D hD

/-- the bounds also hold when callbacks may let exceptions escape under a driver that keeps stepping: no event
    beyond the duration is ever executed, the clock never passes it, the iteration counter never passes the limit -/
theorem C04_bounds_tolerant {cfg : Config S} (hdt : 0 ≤ cfg.dt) {P : NodeId → Proto S σ} {w : World S σ}
    (h : ReachableT cfg P w) : BInv cfg w :=
  ReachableT.induction (init_binv cfg P)
    (fun n p w h => h.ext ((Ext.lifecycle cfg).runProg n p w) ((SameFlags.handler cfg).runProg n p w).iter)
    (fun w h => h.ext ((Ext.lifecycle cfg).prep P w) (prep_flags cfg P w).iter)
    (fun w h => h.ext ((Ext.lifecycle cfg).finalise P w) (finalise_flags cfg P w).iter)
    (fun _ e _ h hq hd => h.exec hq hd (ext_execEv cfg P e _)
      (Nat.le_succ_of_le (Nat.le_of_eq (execEv_flags cfg P e _).iter)))
    (fun w e rest h hq hd _ => h.exec hq hd (execStep_ext cfg P e rest w)
      (Nat.le_of_eq (execStep_flags cfg P e rest w).iter)) h

/-- every executed event has `ts ≤ duration`, and the number of executed events never exceeds
    `max_iterations` (so every executed ordinal is below it) — for every program -/
theorem C04_every_executed_within_bounds {cfg : Config S} (hdt : 0 ≤ cfg.dt)
    {P : NodeId → Proto S σ} {w : World S σ} (h : Reachable cfg P w) :
    (∀ D, cfg.duration = some D → ∀ e ∈ w.executed, e.ts ≤ D) ∧
    (∀ N, cfg.maxIter = some N → w.executed ≠ [] → w.executed.length ≤ N) := by
  have hb := C04_bounds_tolerant hdt h.toT
  have hl := reachable_linv h
  constructor
  · intro D hD e he
    exact hb.dur D hD e (World.mem_executed.mp he)
  · intro N hN hne
    have := hb.iter N hN (mt World.executed_eq_nil.mpr hne)
    rwa [hl.iter_eq, ← w.executed_length] at this

/-- no callback — `finish` included — ever observes a time later than the duration (guard `0 ≤ D`) -/
theorem C04_no_callback_after_duration {cfg : Config S} (hdt : 0 ≤ cfg.dt)
    {P : NodeId → Proto S σ} {w : World S σ} (h : Reachable cfg P w) (D : Int)
    (hD : cfg.duration = some D) (h0 : 0 ≤ D) : ∀ t ∈ cbTimes w.trace, t ≤ D := by
  intro t ht
  rw [cbTimes_trace, List.mem_reverse] at ht
  have h1 := (reachable_tinv hdt h).le_now t ht
  have h2 := (C04_bounds_tolerant hdt h.toT).now D hD h0
  rcases reportedTime_cases cfg w with hr | hr <;> omega

/-- a step on a live simulation whose next event is within both bounds executes exactly that
    event — in particular events due exactly AT the duration still run -/
theorem C04_runs_while_within_bounds (cfg : Config S) (hdt : 0 ≤ cfg.dt) (P : NodeId → Proto S σ)
    (w : World S σ) (hw : WInv w) (hf : w.finalized = false) (hi : w.initialized = true)
    (e : Ev (EvKind S)) (rest : List (Ev (EvKind S))) (hq : w.loop.queue = e :: rest)
    (hd : ∀ D, cfg.duration = some D → e.ts ≤ D) (hn : ∀ N, cfg.maxIter = some N → w.iter < N) :
    (step cfg P w).1.rexecuted = e :: w.rexecuted := by
  have hnd : isDone cfg w = false := (isDone_cons_false_iff cfg hq).mpr ⟨hd, hn⟩
  have hp : prep cfg P w = w := prep_of_initialized hi
  rw [step_exec cfg P hf (hp.symm ▸ hnd) (hp.symm ▸ hq), hp]
  split
  · exact ((Ext.lifecycle cfg).finalise P _).rexecuted.trans (execStep_ext cfg P e rest w).rexecuted
  · exact (execStep_ext cfg P e rest w).rexecuted

/-- a step reports completion only at a bound: the world it finalises has an empty queue, or its
    next event is later than the duration, or the iteration limit is reached -/
theorem C04_stops_only_at_bounds (cfg : Config S) (P : NodeId → Proto S σ) (w : World S σ)
    (hf : w.finalized = false) (hr : (step cfg P w).2 = false) :
    ∃ w', isDone cfg w' = true ∧ (step cfg P w).1 = finalise cfg P w' := by
  rcases step_false cfg P w hr with ⟨hf', _⟩ | h
  · rw [hf] at hf'; cases hf'
  · exact h

/-- the events a bounded run executes are, in order, a PREFIX of the events the unbounded run of
    the same scenario and program executes (same number of `step_simulation` calls on both): bounds
    only ever cut a run short, they never reorder, skip or add events. With
    `C04_every_executed_within_bounds` (everything in the prefix is within the bounds),
    `C04_runs_while_within_bounds` (the prefix is extended whenever the next event is within them) and
    `C04_stops_only_at_bounds` this is "precisely the events with ts ≤ D and ordinal < N". -/
theorem C04_prefix_of_unbounded (cfg : Config S) (hdt : 0 ≤ cfg.dt) (P : NodeId → Proto S σ) (n : Nat) :
    (steps cfg P n (init cfg P)).executed <+:
      (steps (unbounded cfg) P n (init (unbounded cfg) P)).executed := by
  obtain ⟨k, hk, hb⟩ := steps_rexecuted cfg P n
  rw [World.executed_prefix, hb, steps_unbounded_rexecuted]
  exact (evSteps_mono cfg P _ hk).1

/-- non-vacuity: with duration 10 an event at 10 does not stop the run, an event at 11 does -/
example (cfg : Config S) (hD : cfg.duration = some 10) (hN : cfg.maxIter = none) (w : World S σ)
    (k : EvKind S) (hq : w.loop.queue = [⟨10, 0, k⟩]) : isDone cfg w = false := by
  rw [isDone_cons cfg hq, hD, hN]; simp
example (cfg : Config S) (hD : cfg.duration = some 10) (w : World S σ)
    (k : EvKind S) (hq : w.loop.queue = [⟨11, 0, k⟩]) : isDone cfg w = true := by
  rw [isDone_cons cfg hq, hD]; simp

end C04
