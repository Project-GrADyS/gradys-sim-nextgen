import GradysProofs.Lemmas.CameraReal
/-
  C19 — the camera reports exactly the other nodes inside its cone and never fails.

  Model: `GradysModel/Camera.lean` (`axis`, `judge`, `takePicture`), the repaired code (cosine
  clamped to [-1, 1] before `math.acos`).
-/
open Real

namespace C19
open Camera

/-- For EVERY value `dot` of the computed cosine and every computed distance: the clamped argument
    lies in [-1, 1], `math.acos` is defined there, and the decision is never `.error`; at distance
    0 (not beyond reach, not positive) the angle test is skipped and the node is reported.
    Consequently no judgement of the model errs and `takePicture` returns a list. -/
theorem C19_total {S : Type} [Scalar S] [LawfulOrderScalar S] (c : Config S) :
    (∀ dot : S, Scalar.le (Scalar.neg (Scalar.ofInt 1)) (clamp dot) = true ∧
        Scalar.le (clamp dot) (Scalar.ofInt 1) = true ∧ (Scalar.acos? (clamp dot)).isSome = true) ∧
    (∀ distance dot : S, judgeWith c distance dot ≠ .error) ∧
    (∀ distance dot : S, Scalar.gt distance c.reach = false →
        Scalar.gt distance (Scalar.ofInt 0) = false → judgeWith c distance dot = .detected) ∧
    (∀ self other : V3 S, judge c self other ≠ .error) ∧
    (∀ (selfId : Nat) (self : V3 S) (nodes : List (Nat × V3 S)),
        (takePicture c selfId self nodes).isSome = true) := by
  refine ⟨fun dot => ⟨(clamp_bounds dot).1, (clamp_bounds dot).2, acos_clamp_isSome dot⟩,
    judgeWith_ne_error c, fun _ _ => judgeWith_apex, judge_ne_error c, fun selfId self nodes => ?_⟩
  rw [takePicture_eq c selfId self nodes (judge_ne_error c self)]
  rfl

/-- Over ℝ, concretely: for every value of the dot product the clamped argument is in [-1, 1] and
    `acos?` answers; no verdict is `.error`; every picture is returned. -/
theorem C19_total_real (c : Config ℝ) :
    (∀ dot : ℝ, -1 ≤ (clamp dot : ℝ) ∧ (clamp dot : ℝ) ≤ 1 ∧
        Scalar.acos? (clamp dot : ℝ) = some (arccos (clamp dot))) ∧
    (∀ self other : V3 ℝ, judge c self other ≠ .error) ∧
    (∀ (selfId : Nat) (self : V3 ℝ) (nodes : List (Nat × V3 ℝ)),
        ∃ pic, takePicture c selfId self nodes = some pic) := by
  have hc : ∀ dot : ℝ, -1 ≤ (clamp dot : ℝ) ∧ (clamp dot : ℝ) ≤ 1 := fun dot => by
    rw [clamp_real]
    exact RealScalar.clamp_mem dot
  refine ⟨fun dot => ⟨(hc dot).1, (hc dot).2, ?_⟩, judge_ne_error c,
    fun selfId self nodes => ⟨_, takePicture_eq c selfId self nodes (judge_ne_error c self)⟩⟩
  rw [RealScalar.acos_eq, if_pos (hc dot)]

open Classical in
/-- **Specification over ℝ.**
    (1) the axis is a unit vector;
    (2) for a node away from the apex the normalised dot product is a genuine cosine, so
        `arccos` of it is the angle between axis and direction;
    (3) the verdict is `detected` exactly for the nodes in the cone (`InCone`: distance ≤ reach and
        (distance = 0 or angle − tol ≤ θ));
    (4) the picture is exactly the registered nodes other than the camera's own that are in the
        cone, in registration order, each entry carrying that node's position;
    (5) hence: entry (n, pos) is in the picture iff it is a registered node, n ≠ self, in the cone;
    (6) the camera's own node never appears. -/
theorem C19_spec (c : Config ℝ) (selfId : Nat) (self : V3 ℝ) (nodes : List (Nat × V3 ℝ)) :
    (axis c).x ^ 2 + (axis c).y ^ 2 + (axis c).z ^ 2 = 1 ∧
    (∀ other : V3 ℝ, 0 < edist3 self other →
        cos (arccos (cosAngle c self other)) = cosAngle c self other) ∧
    (∀ other : V3 ℝ, judge c self other = .detected ↔ InCone c self other) ∧
    takePicture c selfId self nodes
      = some (nodes.filter (fun p => decide (p.1 ≠ selfId ∧ InCone c self p.2))) ∧
    (∀ pic, takePicture c selfId self nodes = some pic →
        ∀ n pos, (n, pos) ∈ pic ↔ (n, pos) ∈ nodes ∧ n ≠ selfId ∧ InCone c self pos) ∧
    (∀ pic, takePicture c selfId self nodes = some pic → ∀ pos, (selfId, pos) ∉ pic) := by
  have hpic : takePicture c selfId self nodes
      = some (nodes.filter (fun p => decide (p.1 ≠ selfId ∧ InCone c self p.2))) := by
    simp [takePicture_eq c selfId self nodes (judge_ne_error c self), judge_detected_iff, bne, beq_eq_decide]
  refine ⟨axis_unit c, fun other hd => ?_, judge_detected_iff c self, hpic, ?_, ?_⟩
  · exact cos_arccos (cosAngle_mem c self other hd).1 (cosAngle_mem c self other hd).2
  all_goals
    rw [hpic]
    rintro _ ⟨⟩
    simp [List.mem_filter]

/-- non-vacuity: a node straight ahead on the axis, within reach, is in the cone of a camera
    pointing up (elevation 0) with any non-negative cone angle and tolerance -/
example : InCone ⟨10, 30, 0, 0, 0⟩ ⟨0, 0, 0⟩ ⟨0, 0, 5⟩ := by
  have h5 : edist3 ⟨0, 0, 0⟩ ⟨0, 0, 5⟩ = 5 :=
    (edist3_eq_realScalar _ _).trans (RealScalar.edist3_eq_of_sq (by norm_num) (by norm_num))
  have ax : axis (⟨10, 30, 0, 0, 0⟩ : Config ℝ) = ⟨0, 0, 1⟩ := by
    unfold axis
    simp only [RealScalar.radians_eq, RealScalar.mul_eq, RealScalar.sin_eq, RealScalar.cos_eq, zero_mul,
      sin_zero, cos_zero]
  have hcos : cosAngle ⟨10, 30, 0, 0, 0⟩ ⟨0, 0, 0⟩ ⟨0, 0, 5⟩ = 1 := by
    unfold cosAngle
    rw [h5, ax]
    norm_num
  refine ⟨by rw [h5]; norm_num, Or.inr ?_⟩
  rw [hcos, arccos_one]
  simp only [sub_zero]
  exact mul_nonneg (by norm_num) (div_nonneg pi_pos.le (by norm_num))

/-- Translating the camera and every node by the same vector leaves every verdict unchanged, and
    the picture of the translated scene is the translated picture (same nodes, same order). -/
theorem C19_translation (c : Config ℝ) (t : V3 ℝ) (selfId : Nat) (self : V3 ℝ)
    (nodes : List (Nat × V3 ℝ)) :
    (∀ other : V3 ℝ, judge c (shift t self) (shift t other) = judge c self other) ∧
    takePicture c selfId (shift t self) (nodes.map (fun p => (p.1, shift t p.2)))
      = (takePicture c selfId self nodes).map (List.map (fun p => (p.1, shift t p.2))) := by
  have hj : ∀ other : V3 ℝ, judge c (shift t self) (shift t other) = judge c self other := fun other =>
    judge_congr_rel (by unfold rel shift; simp only [RealScalar.sub_eq, add_sub_add_right_eq_sub])
  exact ⟨hj, by simp [takePicture_eq _ _ _ _ (judge_ne_error c _), List.filter_map, Function.comp_def, hj]⟩

/-- For every scalar type: the unclamped decision for a node within reach and away from the apex
    raises exactly when the computed cosine is outside the domain of `acos`; over ℝ that is every
    value above 1 (the rounded cosine 1.0000000000000002 of finding F19) or below −1 — whereas the
    clamped decision of the model answers for the same values. -/
theorem C19_unclamped_can_fail :
    (∀ {S : Type} [Scalar S] (c : Config S) (distance dot : S),
        Scalar.gt distance c.reach = false → Scalar.gt distance (Scalar.ofInt 0) = true →
        (judgePinnedWith c distance dot = .error ↔ Scalar.acos? dot = none)) ∧
    (∀ x : ℝ, 1 < x ∨ x < -1 → Scalar.acos? x = none) ∧
    (∀ (c : Config ℝ) (distance x : ℝ), distance ≤ c.reach → 0 < distance → 1 < x →
        judgePinnedWith c distance x = .error ∧ judgeWith c distance x ≠ .error) := by
  have hdom : ∀ x : ℝ, 1 < x ∨ x < -1 → Scalar.acos? x = none := fun x hx => by
    rw [RealScalar.acos_eq, if_neg]
    rintro ⟨ha, hb⟩
    rcases hx with hx | hx
    · exact absurd hb (not_le.mpr hx)
    · exact absurd ha (not_le.mpr hx)
  refine ⟨fun _ _ _ => judgePinnedWith_error_iff, hdom,
    fun c distance x hr h0 hx => ⟨?_, judgeWith_ne_error c _ _⟩⟩
  exact (judgePinnedWith_error_iff ((RealScalar.gt_eq_false _ _).mpr hr)
    ((RealScalar.gt_eq _ _).mpr (by rwa [RealScalar.ofInt_eq, Int.cast_zero]))).mpr (hdom x (.inl hx))

/-- **Every camera has its own axis** (any scalar type).  In a fleet of cameras whose configuration
    objects are held by reference (several cameras may hold one object, `change_facing` writes the
    new angles into it):
    (1) `change_facing` on camera `i` leaves what every other camera `j` works with — node, reach,
        cone angle, axis, tolerance — unchanged, hence
    (2) every picture of every other camera, for every scene;
    (3) camera `i` itself works with its previous data except for the two new angles;
    (4) the constructor gives the new camera exactly the configuration it was passed and leaves the
        cameras built before untouched. -/
theorem C19_change_facing_own {S : Type} [Scalar S] (f : Fleet S) (i : Nat) (elev rot : S) :
    (∀ j, j ≠ i → (f.changeFacing i elev rot).view j = f.view j) ∧
    (∀ j, j ≠ i → ∀ (self : V3 S) (nodes : List (Nat × V3 S)),
        (f.changeFacing i elev rot).takePicture j self nodes = f.takePicture j self nodes) ∧
    (∀ selfId c, f.view i = some (selfId, c) →
        (f.changeFacing i elev rot).view i
          = some (selfId, { c with elevationDeg := elev, rotationDeg := rot })) ∧
    (∀ selfId k c, f.confs[k]? = some c →
        (f.construct selfId k).view f.cams.length = some (selfId, c) ∧
        ∀ j, j < f.cams.length → (f.construct selfId k).view j = f.view j) := by
  refine ⟨Fleet.view_changeFacing_ne f i elev rot, fun j hj self nodes => ?_,
    Fleet.view_changeFacing_eq f i elev rot, fun selfId k c hk => Fleet.view_construct f selfId k c hk⟩
  rw [Fleet.takePicture_eq, Fleet.view_changeFacing_ne f i elev rot j hj, ← Fleet.takePicture_eq]

/-- non-vacuity, and the aliasing is really in the model: two cameras built from ONE configuration
    object looking down (elevation 180); re-aiming camera 0 to elevation 90 writes 90 into the shared
    object, camera 0 now works with 90 — and camera 1 still with 180. -/
example :
    let f := ((Fleet.mk [(⟨20, 30, 180, 0, 0⟩ : Config ℝ)] []).construct 0 0).construct 1 0
    let g := f.changeFacing 0 90 0
    (g.confs[0]?.map (·.elevationDeg)) = some 90 ∧
    ((g.view 0).map (·.2.elevationDeg)) = some 90 ∧
    ((g.view 1).map (·.2.elevationDeg)) = some 180 := by
  exact ⟨rfl, rfl, rfl⟩

open Classical in
/-- **Specification for a fleet over ℝ.**  Camera `j` works with `(selfId, c)`.  After
    `change_facing` on any OTHER camera `i` — sharing the configuration object or not — the picture of
    `j` is exactly the registered nodes other than its own inside the cone of `c`; and the picture
    of the re-aimed camera is exactly the other nodes inside the cone around its NEW axis (reach and
    cone angle as before). -/
theorem C19_fleet_spec (f : Fleet ℝ) (i : Nat) (elev rot : ℝ) (self : V3 ℝ)
    (nodes : List (Nat × V3 ℝ)) :
    (∀ j selfId c, j ≠ i → f.view j = some (selfId, c) →
        (f.changeFacing i elev rot).takePicture j self nodes
          = some (nodes.filter (fun p => decide (p.1 ≠ selfId ∧ InCone c self p.2)))) ∧
    (∀ selfId c, f.view i = some (selfId, c) →
        (f.changeFacing i elev rot).takePicture i self nodes
          = some (nodes.filter (fun p => decide (p.1 ≠ selfId ∧
              InCone { c with elevationDeg := elev, rotationDeg := rot } self p.2)))) := by
  refine ⟨fun j selfId c hj hv => ?_, fun selfId c hv => ?_⟩
  · rw [Fleet.takePicture_eq, Fleet.view_changeFacing_ne f i elev rot j hj, hv]
    exact (C19_spec c selfId self nodes).2.2.2.1
  · rw [Fleet.takePicture_eq, Fleet.view_changeFacing_eq f i elev rot selfId c hv]
    exact (C19_spec _ selfId self nodes).2.2.2.1

end C19
