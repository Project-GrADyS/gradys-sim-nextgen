import GradysProofs.Lemmas.Medium
import GradysProofs.Lemmas.RealDist
/-
  C09 — delivery is gated by the SENDER's range and the positions at send time.

  `Sim.inRange` is the range test of `CommunicationHandler.can_transmit`
  (gradysim/simulator/handler/communication.py:164-169): the squared distance against the square of
  `transmission_ranges[sender.id]`.  `Sim.transmit` is `_transmit_message`; `setRange` is
  `CommunicationController.set_transmission_range`.
  Guard `0 ≤ range` for the metric reading: the code squares the range, so a negative medium default
  behaves like its absolute value (`C09_iff_abs` states exactly that); the controller refuses
  negatives (`C09_negative_range_refused`).
-/
set_option linter.unusedSectionVars false
set_option linter.unusedVariables false

namespace C09
open Sim RealScalar

/-- the copy is in range iff the Euclidean distance between sender and receiver is at most the
    sender's range — all three read in the world at the send; the boundary `=` is in range -/
theorem C09_iff {σ : Type} (w : World ℝ σ) (s d : NodeId) (hr : 0 ≤ w.range s) :
    inRange w s d = true ↔ edist3 (w.pos s) (w.pos d) ≤ w.range s := by
  rw [inRange_eq, le_eq, sq_eq, edist3_eq_sqrt_sqdist]
  exact (Real.sqrt_le_left hr).symm

/-- without the guard: the code compares against the squared range, i.e. against `|range|` -/
theorem C09_iff_abs {σ : Type} (w : World ℝ σ) (s d : NodeId) :
    inRange w s d = true ↔ edist3 (w.pos s) (w.pos d) ≤ |w.range s| := by
  rw [inRange_eq, le_eq, sq_eq, edist3_eq_sqrt_sqdist, ← sq_abs (w.range s)]
  exact (Real.sqrt_le_left (abs_nonneg _)).symm

/-- exactly on the boundary: in range -/
theorem C09_boundary_included {σ : Type} (w : World ℝ σ) (s d : NodeId) (hr : 0 ≤ w.range s)
    (h : edist3 (w.pos s) (w.pos d) = w.range s) : inRange w s d = true :=
  (C09_iff w s d hr).mpr h.le

/-- strictly outside: not in range -/
theorem C09_outside_excluded {σ : Type} (w : World ℝ σ) (s d : NodeId) (hr : 0 ≤ w.range s)
    (h : w.range s < edist3 (w.pos s) (w.pos d)) : inRange w s d = false := by
  cases hb : inRange w s d
  · rfl
  · exact absurd ((C09_iff w s d hr).mp hb) (not_le.mpr h)

section anyScalar
variable {S σ : Type} [Scalar S]

/-- `transmit` either leaves the accepted-event list and the queue unchanged or extends them by
    exactly one event, the delivery `(.deliver dst src msg)` due at `now + max delay 0`; which of the
    two is decided by the draw and by `inRange` evaluated in the world AT THE SEND, i.e. only by
    `w.pos src`, `w.pos dst`, `w.range src` and the draw (second part: two worlds that agree on these
    four take the same decision, whatever else differs).  The scheduled event is plain data — it
    carries no position and no range —, so nothing that happens during the delay can change it. -/
theorem C09_decision_at_send (cfg : Config S) (src dst : NodeId) (msg : String) (w : World S σ) :
    ((transmit cfg src dst msg w).raccepted =
        if drawPasses cfg w && inRange w src dst then
          ⟨w.loop.now + max cfg.delay 0, w.loop.nextSeq, .deliver dst src msg⟩ :: w.raccepted
        else w.raccepted) ∧
    ((transmit cfg src dst msg w).loop.queue =
        if drawPasses cfg w && inRange w src dst then
          insertEv ⟨w.loop.now + max cfg.delay 0, w.loop.nextSeq, .deliver dst src msg⟩ w.loop.queue
        else w.loop.queue) ∧
    (∀ w' : World S σ, w'.pos src = w.pos src → w'.pos dst = w.pos dst →
      w'.range src = w.range src → w'.drawIdx = w.drawIdx →
      (drawPasses cfg w' && inRange w' src dst) = (drawPasses cfg w && inRange w src dst)) := by
  refine ⟨?_, ?_, ?_⟩
  · rw [transmit_accepted, deliveryEv_eq]; rfl
  · rw [transmit_queue, deliveryEv_eq]; rfl
  · exact fun w' h1 h2 h3 h4 => copyDelivered_congr cfg h4 h1 h2 h3

/-- executing a delivery event is the packet callback on its destination with its payload, whatever
    the positions and ranges have become meanwhile -/
theorem C09_delivery_ignores_geometry (cfg : Config S) (P : NodeId → Proto S σ) (ts : Int) (seq : Nat)
    (dst src : NodeId) (msg : String) (w : World S σ) :
    execEv cfg P ⟨ts, seq, .deliver dst src msg⟩ w = callback cfg P dst (.packet msg) w := rfl

/-- the decision and the delivery do not depend on any position or range change made after (or
    anywhere else than at) the send: two worlds that agree on the sender's and receiver's position, the
    sender's range, the draw index and the event loop end up with the same event loop and accepted
    list after the copy — all other positions, ranges, targets and speeds are irrelevant —, and the
    scheduled event, executed in ANY later world, is the packet callback on `dst` with `msg` -/
theorem C09_send_time_only (cfg : Config S) (P : NodeId → Proto S σ) (src dst : NodeId) (msg : String)
    (w : World S σ) :
    (∀ w' : World S σ, w'.pos src = w.pos src → w'.pos dst = w.pos dst →
      w'.range src = w.range src → w'.drawIdx = w.drawIdx → w'.loop = w.loop →
      w'.raccepted = w.raccepted →
      (transmit cfg src dst msg w').loop = (transmit cfg src dst msg w).loop ∧
      (transmit cfg src dst msg w').raccepted = (transmit cfg src dst msg w).raccepted) ∧
    (∀ (later : World S σ) (ts : Int) (seq : Nat),
      execEv cfg P ⟨ts, seq, .deliver dst src msg⟩ later = callback cfg P dst (.packet msg) later) := by
  refine ⟨?_, fun _ _ _ => rfl⟩
  intro w' h1 h2 h3 h4 h5 h6
  have hc : copyDelivered cfg w' src dst = copyDelivered cfg w src dst :=
    (C09_decision_at_send cfg src dst msg w).2.2 w' h1 h2 h3 h4
  have ht : deliverTime cfg w' = deliverTime cfg w := deliverTime_congr cfg (by rw [h5])
  rw [transmit_eq cfg src dst msg w', transmit_eq cfg src dst msg w, hc]
  split
  · exact ⟨by simp only [sched_loop, h5, ht], by simp only [sched_raccepted, h5, h6, ht]⟩
  · exact ⟨h5, h6⟩

/-- loss-free medium (`failure_rate ≤ 0`): the copy is scheduled iff in range at the send -/
theorem C09_lossfree (cfg : Config S) (hfr : Scalar.gt cfg.failRate (Scalar.ofInt 0) = false)
    (src dst : NodeId) (msg : String) (w : World S σ) :
    (transmit cfg src dst msg w).raccepted =
      if inRange w src dst then deliveryEv cfg w src dst msg :: w.raccepted else w.raccepted := by
  rw [transmit_accepted, copyDelivered_lossfree hfr]

/-- `setRange r` by node `n` changes only `range n` — no position, no other node's range, no event —
    and whether a node `d` RECEIVES from `s ≠ d` does not depend on `range d` -/
theorem C09_range_frame (cfg : Config S) (n : NodeId) (r : S) (w : World S σ) :
    ((execReq cfg n (.setRange r) w).1 = w ∨
      (execReq cfg n (.setRange r) w).1 = { w with range := upd w.range n r }) ∧
    (∀ m, m ≠ n → (execReq cfg n (.setRange r) w).1.range m = w.range m) ∧
    (execReq cfg n (.setRange r) w).1.pos = w.pos ∧
    (execReq cfg n (.setRange r) w).1.loop = w.loop ∧
    (execReq cfg n (.setRange r) w).1.raccepted = w.raccepted ∧
    (∀ s d, s ≠ n → inRange (execReq cfg n (.setRange r) w).1 s d = inRange w s d) ∧
    (∀ s d (r' : S), d ≠ s → inRange { w with range := upd w.range d r' } s d = inRange w s d) := by
  have hlast : ∀ s d (r' : S), d ≠ s → inRange { w with range := upd w.range d r' } s d = inRange w s d :=
    fun s d r' hds => inRange_congr rfl rfl (upd_ne _ _ _ (Ne.symm hds))
  rw [execReq_eq]
  cases verdict cfg n w.loop.now (.setRange r) with
  | some ok =>
    exact ⟨Or.inl rfl, fun _ _ => rfl, rfl, rfl, rfl, fun _ _ _ => rfl, hlast⟩
  | none =>
    exact ⟨Or.inr rfl, fun m hm => upd_ne _ _ _ hm, rfl, rfl, rfl,
      fun s d hs => inRange_congr rfl rfl (upd_ne _ _ _ hs), hlast⟩

/-- an accepted `setRange` really sets the caller's range (communication handler present) -/
theorem C09_setRange_sets (cfg : Config S) (hc : cfg.hasComm = true) (n : NodeId) (r : S)
    (w : World S σ) (h : Scalar.lt r (Scalar.ofInt 0) = false) :
    execReq cfg n (.setRange r) w = ({ w with range := upd w.range n r }, true) ∧
    (execReq cfg n (.setRange r) w).1.range n = r := by
  have he : execReq cfg n (.setRange r) w = ({ w with range := upd w.range n r }, true) := by
    rw [execReq_setRange, h, hc]; rfl
  exact ⟨he, by rw [he]; exact upd_self _ _ _⟩

/-- a negative range is refused (`ValueError`) and changes nothing -/
theorem C09_negative_range_refused (cfg : Config S) (n : NodeId) (r : S) (w : World S σ)
    (h : Scalar.lt r (Scalar.ofInt 0) = true) : execReq cfg n (.setRange r) w = (w, false) := by
  rw [execReq_setRange, if_pos h]

end anyScalar

/-- over ℝ: `r < 0` is refused, `0 ≤ r` is accepted -/
theorem C09_negative_range_refused_real {σ : Type} (cfg : Config ℝ) (n : NodeId) (r : ℝ)
    (w : World ℝ σ) :
    (r < 0 → execReq cfg n (.setRange r) w = (w, false)) ∧
    (0 ≤ r → (execReq cfg n (.setRange r) w).2 = true) := by
  constructor
  · intro h
    exact C09_negative_range_refused cfg n r w (by rw [lt_eq, ofInt_eq]; push_cast; exact h)
  · intro h
    have h' : ¬ r < 0 := not_lt.mpr h
    rw [execReq_setRange]
    cases cfg.hasComm <;> simp [h']

/-! ### non-vacuity: an on-boundary, asymmetric pair -/

/-- node 0 at the origin with range 7, node 1 at (2,3,6) — distance exactly 7 — with range 6 -/
noncomputable def exWorld : World ℝ Unit :=
  { loop := EL.empty, iter := 0, initialized := true, finalized := false, pending := [],
    nextTimer := fun _ => 0, range := fun n => if n = 0 then 7 else 6,
    pos := fun n => if n = 0 then ⟨0, 0, 0⟩ else ⟨2, 3, 6⟩,
    target := fun _ => none, speed := fun _ => 10, drawIdx := 0, pstate := fun _ => (),
    rtrace := [], raccepted := [], rexecuted := [] }

example : edist3 (exWorld.pos 0) (exWorld.pos 1) = exWorld.range 0 ∧
    inRange exWorld 0 1 = true ∧ inRange exWorld 1 0 = false := by
  have hd : edist3 (exWorld.pos 0) (exWorld.pos 1) = 7 :=
    edist3_eq_of_sq (a := ⟨0, 0, 0⟩) (b := ⟨2, 3, 6⟩) (by norm_num) (by norm_num)
  have hd' : edist3 (exWorld.pos 1) (exWorld.pos 0) = 7 := by rw [edist3_comm]; exact hd
  have r0 : exWorld.range 0 = 7 := rfl
  have r1 : exWorld.range 1 = 6 := rfl
  refine ⟨by rw [hd, r0], ?_, ?_⟩
  · exact C09_boundary_included exWorld 0 1 (by rw [r0]; norm_num) (by rw [hd, r0])
  · exact C09_outside_excluded exWorld 1 0 (by rw [r1]; norm_num) (by rw [hd', r1]; norm_num)

end C09
