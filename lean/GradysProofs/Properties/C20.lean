import GradysProofs.Lemmas.SimBase
import GradysProofs.Lemmas.GeoSmall
/-
  C20 — geographic targets map to a metrically faithful local frame.

  Model: `GradysModel/Geo.lean` (`haversine`, `geoToCartesian`; the repaired axis assignment:
  x = east–west leg signed by longitude, y = north–south leg signed by latitude; what the pinned
  assignment does instead, finding F20, is `C20_pinned_mirror_distance`).  Latitudes and
  longitudes are in DEGREES in the model, as in the source; the hypotheses below are about their
  radian values `rad x = x·(π/180) = Scalar.radians x` (`GeoReal.rad_eq`).  `R = 6371000`.

  A position triple `V3` used as a geographic point is (lat, lon, alt) = (x, y, z).
-/
open Real

namespace C20
open GeoReal Geo

/-- North–south leg (reference and target on one meridian): exactly `R·|Δφ|`, for `|Δφ| ≤ π`. -/
theorem C20_meridian_leg (lat0 lon0 lat1 : ℝ) (h : |rad lat1 - rad lat0| ≤ π) :
    haversine lat0 lon0 lat1 lon0 = R * |rad lat1 - rad lat0| :=
  meridian_leg lat0 lon0 lat1 h

/-- East–west leg (reference and target on one parallel, `|φ₀| ≤ π/2`): exactly
    `2R·arcsin(cos φ₀·|sin(Δλ/2)|)`; and for `|Δλ| ≤ π` it lies in
    `[R·cos φ₀·|Δλ|·(1 − Δλ²/24), R·cos φ₀·|Δλ|]` — the length of the parallel arc, up to the
    cubic term. -/
theorem C20_parallel_leg (lat0 lon0 lon1 : ℝ) (hφ : |rad lat0| ≤ π / 2) :
    haversine lat0 lon0 lat0 lon1
      = 2 * R * arcsin (cos (rad lat0) * |sin ((rad lon1 - rad lon0) / 2)|) ∧
    (|rad lon1 - rad lon0| ≤ π →
      R * cos (rad lat0) * |rad lon1 - rad lon0| * (1 - (rad lon1 - rad lon0) ^ 2 / 24)
        ≤ haversine lat0 lon0 lat0 lon1 ∧
      haversine lat0 lon0 lat0 lon1 ≤ R * cos (rad lat0) * |rad lon1 - rad lon0|) := by
  have hc0 : 0 ≤ cos (rad lat0) := cos_nonneg_of_mem_Icc (abs_le.mp hφ)
  have hleg := parallel_leg lat0 lon0 lon1 hc0
  refine ⟨hleg, fun hl => ?_⟩
  have lo := GeoSmall.le_arcsin_mul_abs_sin (x := (rad lon1 - rad lon0) / 2) hc0 (cos_le_one _)
  have up := GeoSmall.arcsin_mul_abs_sin_le hc0 (cos_le_one _) (abs_div_two_le hl)
  rw [abs_div_two] at lo up
  rw [hleg]
  constructor
  · calc R * cos (rad lat0) * |rad lon1 - rad lon0| * (1 - (rad lon1 - rad lon0) ^ 2 / 24)
        = 2 * R * (cos (rad lat0) * (|rad lon1 - rad lon0| / 2)
            * (1 - ((rad lon1 - rad lon0) / 2) ^ 2 / 6)) := by ring
      _ ≤ _ := mul_le_mul_of_nonneg_left lo two_R_pos.le
  · calc _ ≤ 2 * R * (cos (rad lat0) * (|rad lon1 - rad lon0| / 2)) :=
        mul_le_mul_of_nonneg_left up two_R_pos.le
      _ = _ := by ring

theorem sign_mul_nonneg (a b : ℝ) {h : ℝ} (hh : 0 ≤ h) :
    (a ≤ b → 0 ≤ (if a ≤ b then 1 else -1) * h) ∧
    (b < a → (if a ≤ b then 1 else -1) * h ≤ 0) := by
  refine ⟨fun hab => ?_, fun hab => ?_⟩
  · rwa [if_pos hab, one_mul]
  · rwa [if_neg (not_le.mpr hab), neg_one_mul, neg_nonpos]

/-- `x` is the east–west leg signed by the longitude difference, `y` the north–south leg signed
    by the latitude difference, `z` the altitude difference — in all four quadrants; both legs
    are non-negative, so the signs of `x`, `y` are the signs of `Δλ`, `Δφ`. -/
theorem C20_axes_signs (ref tgt : V3 ℝ) :
    0 ≤ haversine ref.x ref.y ref.x tgt.y ∧ 0 ≤ haversine ref.x ref.y tgt.x ref.y ∧
    (geoToCartesian ref tgt).x
      = (if ref.y ≤ tgt.y then 1 else -1) * haversine ref.x ref.y ref.x tgt.y ∧
    (geoToCartesian ref tgt).y
      = (if ref.x ≤ tgt.x then 1 else -1) * haversine ref.x ref.y tgt.x ref.y ∧
    (geoToCartesian ref tgt).z = tgt.z - ref.z ∧
    -- the four quadrants, spelled out
    (ref.x ≤ tgt.x → ref.y ≤ tgt.y →
      0 ≤ (geoToCartesian ref tgt).x ∧ 0 ≤ (geoToCartesian ref tgt).y) ∧
    (ref.x ≤ tgt.x → tgt.y < ref.y →
      (geoToCartesian ref tgt).x ≤ 0 ∧ 0 ≤ (geoToCartesian ref tgt).y) ∧
    (tgt.x < ref.x → ref.y ≤ tgt.y →
      0 ≤ (geoToCartesian ref tgt).x ∧ (geoToCartesian ref tgt).y ≤ 0) ∧
    (tgt.x < ref.x → tgt.y < ref.y →
      (geoToCartesian ref tgt).x ≤ 0 ∧ (geoToCartesian ref tgt).y ≤ 0) := by
  have hew := haversine_nonneg ref.x ref.y ref.x tgt.y
  have hns := haversine_nonneg ref.x ref.y tgt.x ref.y
  have hx : (geoToCartesian ref tgt).x
      = (if ref.y ≤ tgt.y then 1 else -1) * haversine ref.x ref.y ref.x tgt.y := by
    rw [geoToCartesian_real]
  have hy : (geoToCartesian ref tgt).y
      = (if ref.x ≤ tgt.x then 1 else -1) * haversine ref.x ref.y tgt.x ref.y := by
    rw [geoToCartesian_real]
  obtain ⟨xp, xn⟩ := sign_mul_nonneg ref.y tgt.y hew
  obtain ⟨yp, yn⟩ := sign_mul_nonneg ref.x tgt.x hns
  rw [← hx] at xp xn
  rw [← hy] at yp yn
  exact ⟨hew, hns, hx, hy, rfl, fun h1 h2 => ⟨xp h2, yp h1⟩, fun h1 h2 => ⟨xn h2, yp h1⟩,
    fun h1 h2 => ⟨xp h2, yn h1⟩, fun h1 h2 => ⟨xn h2, yn h1⟩⟩

/-- Signed closed form of the conversion (`|φ₀| ≤ π/2`, `|Δφ| ≤ π`, `|Δλ| ≤ π`):
    `x = 2R·arcsin(cos φ₀·sin(Δλ/2))`, `y = R·Δφ`, `z = Δalt` — odd in `Δλ` resp. `Δφ`, which is
    the sign rule of all four quadrants in one formula. -/
theorem C20_axes_closed_form (ref tgt : V3 ℝ) (hφ : |rad ref.x| ≤ π / 2)
    (hdφ : |rad tgt.x - rad ref.x| ≤ π) (hdl : |rad tgt.y - rad ref.y| ≤ π) :
    geoToCartesian ref tgt
      = ⟨2 * R * arcsin (cos (rad ref.x) * sin ((rad tgt.y - rad ref.y) / 2)),
         R * (rad tgt.x - rad ref.x), tgt.z - ref.z⟩ :=
  geoToCartesian_closed ref tgt (cos_nonneg_of_mem_Icc (abs_le.mp hφ)) hdφ hdl

/-- Zero offsets (`|φ₀| ≤ π/2`): a target with exactly the reference's latitude and longitude — the
    point straight above or below it, "hover over home" — is converted to `(0, 0, Δalt)`: it lies
    on the vertical axis of the local frame and its altitude difference is preserved.  A target on the
    reference meridian has `x = 0`, a target on the reference parallel has `y = 0`, the other two
    coordinates as in the closed form. -/
theorem C20_zero_offsets (ref : V3 ℝ) (hφ : |rad ref.x| ≤ π / 2) :
    (∀ alt : ℝ, geoToCartesian ref ⟨ref.x, ref.y, alt⟩ = ⟨0, 0, alt - ref.z⟩) ∧
    (∀ lat alt : ℝ, |rad lat - rad ref.x| ≤ π →
        geoToCartesian ref ⟨lat, ref.y, alt⟩ = ⟨0, R * (rad lat - rad ref.x), alt - ref.z⟩) ∧
    (∀ lon alt : ℝ, |rad lon - rad ref.y| ≤ π →
        geoToCartesian ref ⟨ref.x, lon, alt⟩
          = ⟨2 * R * arcsin (cos (rad ref.x) * sin ((rad lon - rad ref.y) / 2)), 0, alt - ref.z⟩) := by
  have h0 : |rad ref.x - rad ref.x| ≤ π := by rw [sub_self, abs_zero]; exact pi_pos.le
  refine ⟨fun alt => ?_, geoToCartesian_meridian ref, fun lon alt h => ?_⟩
  · rw [geoToCartesian_meridian ref ref.x alt h0, sub_self, mul_zero]
  · rw [C20_axes_closed_form ref ⟨ref.x, lon, alt⟩ hφ h0 h, sub_self, mul_zero]

/-- non-vacuity: home at (−22.9°, −43.2°, 10 m), the hover point 50 m above it -/
example : geoToCartesian (⟨-22.9, -43.2, 10⟩ : V3 ℝ) ⟨-22.9, -43.2, 60⟩ = ⟨0, 0, 60 - 10⟩ := by
  have hφ : |rad (-22.9)| ≤ π / 2 :=
    (abs_rad_le (d := 90) (by norm_num)).trans_eq (by unfold rad; ring)
  exact (C20_zero_offsets (⟨-22.9, -43.2, 10⟩ : V3 ℝ) hφ).1 60

/-- Two targets on the reference meridian — on either side of the reference or on the same —
    convert to points whose distance is exactly the great-circle distance `R·|φ₁ − φ₂|` combined
    with the altitude difference by Pythagoras; with equal altitudes it is `R·|φ₁ − φ₂|`. -/
theorem C20_meridian_exact (ref : V3 ℝ) (lat1 alt1 lat2 alt2 : ℝ)
    (h1 : |rad lat1 - rad ref.x| ≤ π) (h2 : |rad lat2 - rad ref.x| ≤ π) :
    √(V3.sqdist (geoToCartesian ref ⟨lat1, ref.y, alt1⟩) (geoToCartesian ref ⟨lat2, ref.y, alt2⟩))
      = √((R * |rad lat1 - rad lat2|) ^ 2 + (alt1 - alt2) ^ 2) ∧
    (alt1 = alt2 →
      √(V3.sqdist (geoToCartesian ref ⟨lat1, ref.y, alt1⟩)
          (geoToCartesian ref ⟨lat2, ref.y, alt2⟩)) = R * |rad lat1 - rad lat2|) := by
  have hsq : V3.sqdist (geoToCartesian ref ⟨lat1, ref.y, alt1⟩)
      (geoToCartesian ref ⟨lat2, ref.y, alt2⟩)
      = (R * |rad lat1 - rad lat2|) ^ 2 + (alt1 - alt2) ^ 2 := by
    rw [geoToCartesian_meridian ref lat1 alt1 h1, geoToCartesian_meridian ref lat2 alt2 h2,
      RealScalar.sqdist_eq, mul_pow, sq_abs]
    ring
  refine ⟨by rw [hsq], fun ha => ?_⟩
  rw [hsq, ha, sub_self, zero_pow two_ne_zero, add_zero,
    sqrt_sq (mul_nonneg R_pos.le (abs_nonneg _))]

/-- non-vacuity of the hypotheses: 1° north and 1° south of a reference at 10° N -/
example : |rad 11 - rad 10| ≤ π ∧ |rad 9 - rad 10| ≤ π := by
  have h : rad 180 = π := by unfold rad; ring
  rw [rad_sub, rad_sub, ← h]
  exact ⟨abs_rad_le (by norm_num), abs_rad_le (by norm_num)⟩

theorem half_le_cos {x : ℝ} (h : |x| ≤ π / 3) : 1 / 2 ≤ cos x := by
  rw [← cos_abs, ← cos_pi_div_three]
  exact cos_le_cos_of_nonneg_of_le_pi (abs_nonneg _) (div_le_self pi_pos.le (by norm_num)) h

/-- **0.5 % bound (proved with 0.3 %), box form.**  Reference latitude within ±60° (`|φ₀| ≤ π/3`); two
    targets in the box `|Δφ| ≤ 10⁻³ rad`, `cos φ₀·|Δλ| ≤ 10⁻³ rad` around the reference, i.e.
    north–south and east–west offsets up to `R·10⁻³ = 6.371 km` each.  Then the distance between
    the converted points differs from the true distance (that of `C20_small_offsets`) by at most
    0.3 % of the latter, hence by less than 0.5 %. -/
theorem C20_small_offsets_box (ref t1 t2 : V3 ℝ) (hφ : |rad ref.x| ≤ π / 3)
    (h1u : |rad t1.x - rad ref.x| ≤ 1 / 1000)
    (h1v : cos (rad ref.x) * |rad t1.y - rad ref.y| ≤ 1 / 1000)
    (h2u : |rad t2.x - rad ref.x| ≤ 1 / 1000)
    (h2v : cos (rad ref.x) * |rad t2.y - rad ref.y| ≤ 1 / 1000) :
    |√(V3.sqdist (geoToCartesian ref t1) (geoToCartesian ref t2))
        - √(haversine t1.x t1.y t2.x t2.y ^ 2 + (t2.z - t1.z) ^ 2)|
      ≤ 3 / 1000 * √(haversine t1.x t1.y t2.x t2.y ^ 2 + (t2.z - t1.z) ^ 2) ∧
    |√(V3.sqdist (geoToCartesian ref t1) (geoToCartesian ref t2))
        - √(haversine t1.x t1.y t2.x t2.y ^ 2 + (t2.z - t1.z) ^ 2)|
      ≤ 5 / 1000 * √(haversine t1.x t1.y t2.x t2.y ^ 2 + (t2.z - t1.z) ^ 2) := by
  have hc := half_le_cos hφ
  have h := GeoSmall.small_offsets_box ref t1 t2 (one_half_pos.trans_le hc)
    (le_trans (by norm_num) hc) h1u h1v h2u h2v
  -- within ±60° the tolerance `3/2·ε/cos φ₀` is at most `3·ε`
  have hτ : 3 / 2 * (1 / 1000 / cos (rad ref.x)) ≤ 3 / 1000 :=
    (mul_le_mul_of_nonneg_left (div_le_div_of_nonneg_left (by norm_num) (by norm_num) hc)
      (by norm_num)).trans_eq (by norm_num)
  have h3 := h.trans (mul_le_mul_of_nonneg_right hτ (sqrt_nonneg _))
  exact ⟨h3, h3.trans (mul_le_mul_of_nonneg_right (by norm_num) (sqrt_nonneg _))⟩

/-- non-vacuity: at 45° N, targets 0.02° north-east and 0.03° south-west of the reference
    satisfy the hypotheses -/
example : |rad 45| ≤ π / 3 ∧ |rad 45.02 - rad 45| ≤ 1 / 1000 ∧ |rad 44.97 - rad 45| ≤ 1 / 1000 := by
  have h : rad (3 / 100) ≤ 1 / 1000 := by
    unfold rad; linear_combination 1 / 6000 * pi_le_four
  rw [rad_sub, rad_sub]
  exact ⟨(abs_rad_le (d := 60) (by norm_num)).trans_eq (by unfold rad; ring),
    (abs_rad_le (by norm_num)).trans h, (abs_rad_le (by norm_num)).trans h⟩

/-- A target whose great-circle distance from the reference is at most 5 km (reference latitude
    within ±60°, target latitude a valid latitude, no wrap-around in longitude) lies in the box of
    `C20_small_offsets_box`. -/
theorem C20_within_5km_in_box (ref t : V3 ℝ) (hφ : |rad ref.x| ≤ π / 3) (ht : |rad t.x| ≤ π / 2)
    (hdl : |rad t.y - rad ref.y| ≤ π) (h5 : haversine ref.x ref.y t.x t.y ≤ 5000) :
    |rad t.x - rad ref.x| ≤ 1 / 1000 ∧ cos (rad ref.x) * |rad t.y - rad ref.y| ≤ 1 / 1000 := by
  have hc := half_le_cos hφ
  exact GeoSmall.within_dist_in_box ref t (hφ.trans (by linear_combination 1 / 6 * pi_pos))
    (one_half_pos.trans_le hc) (le_trans (by norm_num) hc) ht hdl
    (by unfold R; norm_num) h5

/-- **C20, the general bound.**  For every reference with `|φ₀| ≤ 60°` and every two targets
    within 5 km (great-circle) of it — in any quadrants, on any sides of the reference — the
    distance between the converted points is within 0.5 % (indeed 0.3 %) of their true distance:
    great-circle distance combined with the altitude difference by Pythagoras.
    Guards: target latitudes are valid latitudes (`|φ| ≤ 90°`) and longitudes do not wrap around
    (`|Δλ| ≤ 180°`; the source's sign rule compares raw longitudes, so across the antimeridian it
    is not meaningful). -/
theorem C20_small_offsets (ref t1 t2 : V3 ℝ) (hφ : |rad ref.x| ≤ π / 3)
    (hl1 : |rad t1.x| ≤ π / 2) (hw1 : |rad t1.y - rad ref.y| ≤ π)
    (hl2 : |rad t2.x| ≤ π / 2) (hw2 : |rad t2.y - rad ref.y| ≤ π)
    (h1 : haversine ref.x ref.y t1.x t1.y ≤ 5000) (h2 : haversine ref.x ref.y t2.x t2.y ≤ 5000) :
    |√(V3.sqdist (geoToCartesian ref t1) (geoToCartesian ref t2))
        - √(haversine t1.x t1.y t2.x t2.y ^ 2 + (t2.z - t1.z) ^ 2)|
      ≤ 5 / 1000 * √(haversine t1.x t1.y t2.x t2.y ^ 2 + (t2.z - t1.z) ^ 2) := by
  obtain ⟨h1u, h1v⟩ := C20_within_5km_in_box ref t1 hφ hl1 hw1 h1
  obtain ⟨h2u, h2v⟩ := C20_within_5km_in_box ref t2 hφ hl2 hw2 h2
  exact (C20_small_offsets_box ref t1 t2 hφ h1u h1v h2u h2v).2

/-- non-vacuity of the 5 km hypothesis: the reference itself is within 5 km of the reference -/
example (ref : V3 ℝ) : haversine ref.x ref.y ref.x ref.y ≤ 5000 := by
  rw [haversine_self]; norm_num

/-- For every scalar type: a geographic `goto` has exactly the effect of a Cartesian `goto` to
    the converted point (same new world, same acceptance), with or without a mobility handler. -/
theorem C20_goto_geo {S σ : Type} [Scalar S] (cfg : Config S) (n : NodeId) (p : V3 S)
    (w : World S σ) :
    Sim.execReq cfg n (.gotoGeo p) w
      = Sim.execReq cfg n (.goto (geoToCartesian cfg.refGeo p)) w := rfl

/-- **Every send counts on its own.**  A geographic goto carries a VALUE `p` = (lat, lon, alt); handling
    it reads that value and nothing else.  So when the same geographic command is sent again and
    again — by one node (a stored command re-sent from a timer: `ns` with repetitions), by several
    nodes (a rally point kept as a constant: several members of `ns`), after any history `w` (other
    commands, other targets, an earlier handling of the very same command) — every node that sent it
    is headed for the converted point `geoToCartesian refGeo p` of the ORIGINAL (lat, lon, alt), and
    the targets of all other nodes are untouched.  An implementation in which handling a command
    alters the command object (so that a later handling of it starts from other numbers) is not
    this model. -/
theorem C20_goto_geo_every_send {S σ : Type} [Scalar S] (cfg : Config S) (h : cfg.hasMob = true)
    (p : V3 S) (ns : List NodeId) (w : World S σ) (m : NodeId) :
    (ns.foldl (fun w n => (Sim.execReq cfg n (.gotoGeo p) w).1) w).target m
      = if m ∈ ns then some (geoToCartesian cfg.refGeo p) else w.target m := by
  induction ns generalizing w with
  | nil => simp
  | cons a as ih =>
    rw [List.foldl_cons, ih, Sim.execReq_mob cfg a w rfl, h]
    by_cases hm : m ∈ as
    · simp [hm]
    · by_cases hma : m = a
      · subst hma; simp [hm, Sim.effect, Sim.upd_self]
      · simp [hm, hma, Sim.effect, Sim.upd_ne]

/-- non-vacuity: two nodes sharing the command and one of them sending it twice -/
example {S σ : Type} [Scalar S] (cfg : Config S) (h : cfg.hasMob = true) (p : V3 S) (w : World S σ) :
    ([0, 1, 0].foldl (fun w n => (Sim.execReq cfg n (.gotoGeo p) w).1) w).target 1
      = some (geoToCartesian cfg.refGeo p) := by
  rw [C20_goto_geo_every_send cfg h]; simp

/-- **F20 on the pinned variant.**  Two targets `a` degrees north (or south) of the reference and
    `b > 0` degrees east resp. west of it (`|a| ≤ 180°`) — mirror images in the reference meridian,
    truly `≈ 2R·cos φ₀·|b|` apart — are converted by the pinned assignment to `(+R|a|, y, 0)` and
    `(−R|a|, y, 0)` with the same `y`: their distance comes out as `2R·|a|`, a function of the
    latitude offset only (for DESIGN's replay `a = 0.001°, b = 0.003°`: 222 m instead of 657 m),
    and is 0 when `a = 0` although the points are distinct.  The repaired model maps the same two
    targets to `(±ew, R·a, 0)` with `ew` the east–west leg, i.e. `2·ew` apart. -/
theorem C20_pinned_mirror_distance (lat0 lon0 a b : ℝ) (ha : |rad a| ≤ π) (hb : 0 < b) :
    let ref : V3 ℝ := ⟨lat0, lon0, 0⟩
    let p1 := geoToCartesianPinned ref ⟨lat0 + a, lon0 + b, 0⟩
    let p2 := geoToCartesianPinned ref ⟨lat0 + a, lon0 - b, 0⟩
    let q1 := geoToCartesian ref ⟨lat0 + a, lon0 + b, 0⟩
    let q2 := geoToCartesian ref ⟨lat0 + a, lon0 - b, 0⟩
    p1.x = R * |rad a| ∧ p2.x = -(R * |rad a|) ∧ p1.y = p2.y ∧ p1.z = p2.z ∧
    √(V3.sqdist p1 p2) = 2 * R * |rad a| ∧
    √(V3.sqdist q1 q2) = 2 * haversine lat0 lon0 lat0 (lon0 + b) := by
  intro ref p1 p2 q1 q2
  -- `lon0 + b` lies east, `lon0 − b` west of the reference: the sign factors of `x` are `1`, `−1`
  have e1 : (if lon0 ≤ lon0 + b then 1 else -1 : ℝ) = 1 := if_pos (le_add_of_nonneg_right hb.le)
  have e2 : (if lon0 ≤ lon0 - b then 1 else -1 : ℝ) = -1 := if_neg (not_le.mpr (sub_lt_self _ hb))
  have hleg : haversine lat0 lon0 (lat0 + a) lon0 = R * |rad a| := by
    have h : rad (lat0 + a) - rad lat0 = rad a := by rw [rad_sub, add_sub_cancel_left]
    rw [meridian_leg lat0 lon0 (lat0 + a) (h ▸ ha), h]
  -- the east–west legs of the two targets are equal, so `y` is the same in both images (pinned)
  -- and `x` is mirrored (repaired)
  have hsym := haversine_parallel_symm lat0 lon0 b
  simp only [p1, p2, q1, q2, ref, geoToCartesianPinned_real, geoToCartesian_real, e1, e2, hleg,
    ← hsym, one_mul, neg_one_mul, true_and]
  exact ⟨(sqrt_sqdist_mirror (mul_nonneg R_pos.le (abs_nonneg _)) _ _).trans (mul_assoc _ _ _).symm,
    sqrt_sqdist_mirror (haversine_nonneg _ _ _ _) _ _⟩

end C20
