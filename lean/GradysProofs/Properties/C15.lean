import GradysProofs.Lemmas.DispatchNested
/-
  C15 — dispatcher: handlers run newest-first, then the protocol's own method, honouring INTERRUPT
  for timer / packet / telemetry only; unregistration is exact; (un)registration from inside a
  running handler neither skips nor repeats anything and takes effect from the next dispatch;
  `create_dispatcher` is idempotent; instances are isolated.

  Everything is proved for EVERY behaviour `beh : Callee → Nat → Script` (what each handler and each
  own method does and returns on its n-th invocation, including scripted re-entrant requests) and,
  where the shape of reachable chains matters, for EVERY history of create / register / unregister /
  dispatch over any number of instances, by induction on the history (`run_dinv`).
-/

namespace C15
open Disp

/-- **Order.**  After any history, a call of method `k` on instance `p` invokes a prefix of the chain
    as it stood when the call began (so: in chain order, each chain position at most once, nothing
    that was not in the chain, and never nothing); that chain is `handlers ++ [own method]` with the
    own method exactly once, at the end; and a registration puts the handler at the very front
    (newest first).  The protocol's own method therefore runs at most once per dispatch. -/
theorem C15_order (beh : Beh) (ops : List Op) (p : Nat) (k : Kind) :
    let s := (run beh DState.init ops).1
    let chain := s.reg.chain p k
    let calls := (dispatch beh s p k).2
    calls.map (·.entry) <+: chain ∧ calls ≠ [] ∧
    (∃ hs, chain = hs ++ [Entry.own] ∧ Entry.own ∉ hs) ∧
    (calls.map (·.entry)).count Entry.own ≤ 1 ∧
    (∀ h, (s.register p k h).2 = Res.ok → (s.register p k h).1.reg.chain p k = Entry.h h :: chain) := by
  intro s chain calls
  have hl : Logged s.regLog p k chain := (run_dinv beh dinv_init ops).chain p k
  have hpre : calls.map (·.entry) <+: chain := walk_prefix
  -- the third conjunct is `ChainOK chain` (`hl.1`) spelled out
  refine ⟨hpre, walk_ne_nil hl.1.ne_nil, hl.1, (hl.of_prefix hpre).1, fun h hres => ?_⟩
  cases hr : s.reg p with
  | none => rw [DState.register_none k h hr] at hres; cases hres
  | some c =>
    rw [DState.register_some k h hr]
    exact (Registry.chain_upd ..).trans ((Chains.set_same c k _).trans (congrArg _ (Registry.chain_some hr k).symm))

/-- the three interruptible kinds, and the two that are not -/
theorem C15_interruptible_kinds :
    Kind.timer.interruptible = true ∧ Kind.packet.interruptible = true ∧ Kind.telemetry.interruptible = true ∧
    Kind.initialize.interruptible = false ∧ Kind.finish.interruptible = false := ⟨rfl, rfl, rfl, rfl, rfl⟩

/-- **INTERRUPT.**  In every state, for timer / packet / telemetry the invoked prefix ends exactly
    with the first callee returning INTERRUPT (all earlier ones returned CONTINUE or None, and if
    part of the chain was not invoked then the last invoked callee returned INTERRUPT); for
    initialize / finish the whole chain is invoked whatever is returned.  The recorded results are
    the behaviour's results for that callee's invocation number. -/
theorem C15_interrupt (beh : Beh) (s : DState) (p : Nat) (k : Kind) :
    let chain := s.reg.chain p k
    let calls := (dispatch beh s p k).2
    (k.interruptible = false → calls.map (·.entry) = chain) ∧
    (k.interruptible = true → ∃ post, chain = calls.map (·.entry) ++ post ∧
        (∀ c ∈ calls.dropLast, c.ret ≠ Ret.interrupt) ∧
        (post ≠ [] → ∃ c, calls.getLast? = some c ∧ c.ret = Ret.interrupt)) ∧
    (∀ c ∈ calls, c.ret = (beh (calleeOf p k c.entry) c.info.n).ret) :=
  ⟨walk_all, walk_interrupt, fun c hc => (dispatch_truthful beh s p k c hc).1⟩

/-- non-vacuity: a chain `[h1, h2, own]` where `h1` returns None and `h2` INTERRUPT: timer stops after
    `h2`, finish runs all three -/
example :
    let beh : Beh := fun c _ => match c with
      | .handler 2 => ⟨[], .interrupt⟩
      | .handler 1 => ⟨[], .none⟩
      | _ => ⟨[], .cont⟩
    let s := (run beh DState.init [.create 0, .register 0 .timer 2, .register 0 .timer 1,
                                   .register 0 .finish 2, .register 0 .finish 1]).1
    ((dispatch beh s 0 .timer).2.map (·.entry)) = [.h 1, .h 2] ∧
    ((dispatch beh s 0 .finish).2.map (·.entry)) = [.h 1, .h 2, .own] := by
  decide

/-- **Exact unregistration.**  If the handler is in the chain, `unregister` answers ok and removes
    exactly its first occurrence — every other element, the other four chains and every other
    instance are untouched; if it is not there (or the instance has no dispatcher) the request is
    refused and the whole state is unchanged. -/
theorem C15_unregister_exact (s : DState) (p : Nat) (k : Kind) (h : Nat) :
    (∀ c, s.reg p = some c → Entry.h h ∈ c k →
        (s.unregister p k h).2 = Res.ok ∧
        ∃ pre post, c k = pre ++ Entry.h h :: post ∧ Entry.h h ∉ pre ∧
          (s.unregister p k h).1.reg.chain p k = pre ++ post ∧
          (∀ k', k' ≠ k → (s.unregister p k h).1.reg.chain p k' = c k')) ∧
    (∀ q, q ≠ p → (s.unregister p k h).1.reg q = s.reg q) ∧
    ((∀ c, s.reg p = some c → Entry.h h ∉ c k) →
        (s.unregister p k h).2 ≠ Res.ok ∧ (s.unregister p k h).1 = s) ∧
    (s.reg p = none ↔ (s.unregister p k h).2 = Res.nodispatcher) := by
  refine ⟨fun c hc hm => ?_, fun _ hq => (other_stableAt hq).rop s (.unreg k h) rfl, fun habs => ?_, ?_⟩
  · obtain ⟨pre, post, hn, hsplit, herase⟩ := List.exists_erase_eq hm
    rw [DState.unregister_ok hc hm]
    refine ⟨rfl, pre, post, hsplit, hn, ?_, fun k' hk => ?_⟩
    · exact (Registry.chain_upd _ p _ k).trans ((Chains.set_same c k _).trans herase)
    · exact (Registry.chain_upd _ p _ k').trans (Chains.set_other c _ hk)
  · cases hr : s.reg p with
    | none => rw [DState.unregister_none k h hr]; exact ⟨nofun, rfl⟩
    | some c => rw [DState.unregister_absent hr (habs c hr)]; exact ⟨nofun, rfl⟩
  · cases hr : s.reg p with
    | none => rw [DState.unregister_none k h hr]; exact ⟨fun _ => rfl, fun _ => rfl⟩
    | some c =>
      by_cases hm : Entry.h h ∈ c k
      · rw [DState.unregister_ok hr hm]; exact ⟨nofun, nofun⟩
      · rw [DState.unregister_absent hr hm]; exact ⟨nofun, nofun⟩

/-- **Re-entrancy.**  (Un)registrations requested from inside running callees do not change what the
    running dispatch invokes (`C15_order` / `C15_interrupt` speak about the chain at its beginning, for
    every behaviour, so nothing is skipped and nothing repeated); they are all in force afterwards:
    the registry after the dispatch is the registry before it with exactly the requests of the
    invoked callees applied in order, so the next dispatch walks the updated chain.  Other instances'
    wrappers are untouched, and each callee performed exactly its script. -/
theorem C15_unregister_reentrant (beh : Beh) (s : DState) (p : Nat) (k : Kind) :
    let d := dispatch beh s p k
    d.1.reg = s.reg.after p (performed d.2) ∧
    (∀ k', d.1.reg.chain p k' = (s.reg.after p (performed d.2)).chain p k') ∧
    (∀ c ∈ d.2, c.info.rops.map (·.1) = (beh (calleeOf p k c.entry) c.info.n).ops) := by
  intro d
  have h := dispatch_reg beh s p k
  exact ⟨h, fun _ => h ▸ rfl, fun c hc => (dispatch_truthful beh s p k c hc).2⟩

/-- non-vacuity of the re-entrant case (the replays of finding F15a): with chain `[h1, h2, own]`,
    `h1` unregistering itself still lets `h2` run, and `h1` registering `h3` runs neither `h1` twice
    nor `h3` now; the next dispatch sees the change. -/
example :
    let beh : Beh := fun c n => match c, n with
      | .handler 1, 0 => ⟨[.unreg .timer 1], .cont⟩
      | .handler 2, 0 => ⟨[.reg .timer 3], .cont⟩
      | _, _ => ⟨[], .cont⟩
    let s := (run beh DState.init [.create 0, .register 0 .timer 2, .register 0 .timer 1]).1
    ((dispatch beh s 0 .timer).2.map (·.entry)) = [.h 1, .h 2, .own] ∧
    ((dispatch beh (dispatch beh s 0 .timer).1 0 .timer).2.map (·.entry)) = [.h 3, .h 2, .own] := by
  decide

/-- **Idempotent creation.**  Asking for a dispatcher again returns the existing wrapper: the state
    is unchanged (no second wrapping, the chains keep their handlers); the first request installs
    the five chains `[own]`; no other instance is touched. -/
theorem C15_create_idempotent (s : DState) (p : Nat) :
    (s.create p).create p = s.create p ∧
    (∀ c, s.reg p = some c → s.create p = s) ∧
    (s.reg p = none → (s.create p).reg p = some Chains.fresh) ∧
    (∀ q, q ≠ p → (s.create p).reg q = s.reg q) := by
  have hnew : s.reg p = none → (s.create p).reg p = some Chains.fresh := fun hr => by
    rw [DState.create_none hr]; exact Registry.upd_same _ p _
  refine ⟨?_, fun _ => DState.create_some, hnew,
    fun _ hq => (other_stableAt hq).create s rfl⟩
  cases hr : s.reg p with
  | some c => rw [DState.create_some hr, DState.create_some hr]
  | none => exact DState.create_some (hnew hr)

/-- ... hence after every history, however often `create` occurred, each of the five chains of every
    wrapped instance contains the protocol's own method exactly once, as its last element. -/
theorem C15_create_no_double_wrap (beh : Beh) (ops : List Op) (p : Nat) (k : Kind) :
    let chain := (run beh DState.init ops).1.reg.chain p k
    chain.count Entry.own = 1 ∧ chain.getLast? = some Entry.own :=
  ((run_dinv beh dinv_init ops).chain p k).1.own_last

/-- **Isolation.**  After any history, a dispatch on instance `p` for kind `k` invokes only handlers
    that were registered on `p` for `k` (by a successful `register` request on `p`, top-level or
    re-entrant); the registration log only mentions instances some operation of the history was
    addressed to; and an operation addressed to one instance leaves the wrapper of every other
    instance exactly as it was. -/
theorem C15_isolation (beh : Beh) (ops : List Op) (p : Nat) (k : Kind) :
    let s := (run beh DState.init ops).1
    (∀ c ∈ (dispatch beh s p k).2, ∀ h, c.entry = Entry.h h → (p, k, h) ∈ s.regLog) ∧
    (∀ x ∈ s.regLog, ∃ op ∈ ops, op.inst = x.1) ∧
    (∀ op q, q ≠ op.inst → (step beh s op).1.reg q = s.reg q) := by
  intro s
  refine ⟨(((run_dinv beh dinv_init ops).chain p k).of_prefix walk_prefix).2, ?_,
    fun op q hq => (other_stableAt hq).step beh rfl⟩
  -- the log only grows by registrations on the instance of the operation being executed, and that
  -- operation (`ho : op ∈ ops`) is the witness for the new entry
  exact run_inv beh (fun op ho => stableAt_regLog (L := fun l => ∀ x ∈ l, ∃ op ∈ ops, op.inst = x.1)
    fun _ _ _ hl => List.forall_mem_cons.2 ⟨⟨op, ho, rfl⟩, hl⟩) (fun _ => nofun)

/-- non-vacuity: handler 1 registered on instance 0 only; a packet for instance 1 runs just its own
    method, one for instance 0 runs the handler first -/
example :
    let beh : Beh := fun _ _ => ⟨[], .cont⟩
    let s := (run beh DState.init [.create 0, .create 1, .register 0 .packet 1]).1
    ((dispatch beh s 1 .packet).2.map (·.entry)) = [.own] ∧
    ((dispatch beh s 0 .packet).2.map (·.entry)) = [.h 1, .own] := by
  decide

/-- **Order and INTERRUPT at every nesting level.**  `dispatchN` lets every callee (handler or own method),
    on each of its invocations, perform requests, ask for the dispatcher, and call any method of its
    protocol again (`NBeh`, arbitrary).  In EVERY state `s` — in particular in the states in which the nested
    calls begin, since a nested call is `dispatchN` at the state reached so far — a call of method `k`
    invokes a prefix of the chain as it stood when THAT call began: never nothing (a well-formed chain is
    not empty, `ChainOK.ne_nil`), the whole chain for initialize / finish, and for timer / packet / telemetry
    exactly up to the first INTERRUPT.  Nothing a nested call or a request does in between makes the running
    call skip or repeat a chain position. -/
theorem C15_nested_order (beh : NBeh) (fuel : Nat) (s : NState) (p : Nat) (k : Kind) :
    let chain := s.d.reg.chain p k
    let calls := (dispatchN beh (fuel + 1) s p k).2
    calls.map (·.entry) <+: chain ∧ (chain ≠ [] → calls ≠ []) ∧
    (k.interruptible = false → calls.map (·.entry) = chain) ∧
    (k.interruptible = true → ∃ post, chain = calls.map (·.entry) ++ post ∧
        (∀ c ∈ calls.dropLast, c.ret ≠ Ret.interrupt) ∧
        (post ≠ [] → ∃ c, calls.getLast? = some c ∧ c.ret = Ret.interrupt)) :=
  ⟨walk_prefix, walk_ne_nil, walk_all, walk_interrupt⟩

/-- **Worlds stay well-formed through nested calls.**  From a well-formed world (every chain is
    `handlers ++ [own method]` with the own method once, and every handler in a chain was registered
    there), a call with callees of any behaviour and nesting ends in a well-formed world, leaves the
    wrappers of all other instances untouched, runs the protocol's own method at most once at its own level
    and invokes only handlers that were registered on that instance for that kind. -/
theorem C15_nested_invariant (beh : NBeh) (fuel : Nat) (s : NState) (p : Nat) (k : Kind) (hs : DInv s.d) :
    let d := dispatchN beh fuel s p k
    DInv d.1.d ∧ (∀ q, q ≠ p → d.1.d.reg q = s.d.reg q) ∧
    (d.2.map (·.entry)).count Entry.own ≤ 1 ∧
    (∀ c ∈ d.2, ∀ h, c.entry = Entry.h h → (p, k, h) ∈ s.d.regLog) :=
  ⟨(dinv_stable.at p).dispatchN beh fuel k hs,
    fun _ hq => (other_stableAt hq).dispatchN beh fuel k rfl,
    (hs.chain p k).of_prefix (dispatchN_prefix beh fuel s p k)⟩

/-- ... and every world reached by a history of create / register / unregister / calls whose callees nest
    and ask for the dispatcher late is well-formed: each chain of every wrapped instance still ends with
    the protocol's own method, exactly once (no second wrapping by a late or repeated request). -/
theorem C15_nested_history (beh : NBeh) (fuel : Nat) (ops : List Op) (p : Nat) (k : Kind) :
    let s := (runN beh fuel DState.init ops).1
    DInv s ∧ (s.reg.chain p k).count Entry.own = 1 ∧ (s.reg.chain p k).getLast? = some Entry.own := by
  intro s
  have inv : DInv s := runN_inv beh fuel (fun op _ => dinv_stable.at op.inst) dinv_init
  exact ⟨inv, (inv.chain p k).1.own_last⟩

/-- **Conservative.**  When the callees only make requests (the behaviours of the first model), the
    extended model invokes the same callees with the same results and ends in the same world as
    `dispatch`: `C15_order` … `C15_isolation` are statements about it too. -/
theorem C15_nested_conservative (beh : Beh) (fuel : Nat) (s : NState) (p : Nat) (k : Kind) :
    (dispatchN beh.lift (fuel + 1) s p k).1.d = (dispatch beh s.d p k).1 ∧
    (dispatchN beh.lift (fuel + 1) s p k).2.map (fun c => (c.entry, c.ret)) =
      (dispatch beh s.d p k).2.map (fun c => (c.entry, c.ret)) := by
  -- the two walks go in step: each callee's requests do to the world what they do in the first model
  refine walk_sim (fun (a : NState) (b : DState) => a.d = b) (fun e a b hab => ?_) rfl
  subst hab
  exact ⟨runNOps_lift _ p _ _, rfl⟩

/-- non-vacuity (the one-shot watchdog): chain `[h1, h2, own]`; on its first invocation `h1` unregisters
    itself, raises the timer again and returns CONTINUE.  The nested call walks `[h2, own]`; the running
    call then goes on with `h2` and the own method — `h2` is not skipped although the chain shrank in front
    of it.  Second scenario (the envelope handler): `h1` registers `h3` and re-delivers; the nested call
    walks `[h3, h1, h2, own]`, the running one does not run `h1` a second time. -/
example :
    let beh : NBeh := fun c n => match c, n with
      | .handler 1, 0 => ⟨[.req (.unreg .timer 1), .dispatch .timer], .cont⟩
      | _, _ => ⟨[], .cont⟩
    let s := (runN beh 4 DState.init [.create 0, .register 0 .timer 2, .register 0 .timer 1]).1
    (dispatchN beh 4 ⟨s, []⟩ 0 .timer).1.log.reverse =
      [.call (.h 1) 0, .req (.unreg .timer 1) .ok, .beginD .timer,
         .call (.h 2) 0, .ret (.h 2) .cont, .call .own 0, .ret .own .cont, .endD .timer, .ret (.h 1) .cont,
       .call (.h 2) 1, .ret (.h 2) .cont, .call .own 1, .ret .own .cont] := by
  decide

example :
    let beh : NBeh := fun c n => match c, n with
      | .handler 1, 0 => ⟨[.req (.reg .packet 3), .dispatch .packet], .cont⟩
      | _, _ => ⟨[], .cont⟩
    let s := (runN beh 4 DState.init [.create 0, .register 0 .packet 2, .register 0 .packet 1]).1
    ((dispatchN beh 4 ⟨s, []⟩ 0 .packet).2.map (·.entry)) = [.h 1, .h 2, .own] ∧
    (dispatchN beh 4 ⟨s, []⟩ 0 .packet).1.log.reverse.filterMap (fun | .call e _ => some e | _ => none) =
      [.h 1, .h 3, .h 1, .h 2, .own, .h 2, .own] := by
  decide

/-- non-vacuity (dispatcher asked for late): the own method of instance 0 asks for the dispatcher and
    registers `h1` while its first timer is being delivered unwrapped; from the next timer on the chain
    `[h1, own]` runs. -/
example :
    let beh : NBeh := fun c n => match c, n with
      | .own 0 .timer, 0 => ⟨[.create, .req (.reg .timer 1)], .cont⟩
      | _, _ => ⟨[], .cont⟩
    let r := runN beh 4 DState.init [.dispatch 0 .timer]
    ((dispatchN beh 4 ⟨DState.init, []⟩ 0 .timer).2.map (·.entry)) = [.own] ∧
    ((dispatchN beh 4 ⟨r.1, []⟩ 0 .timer).2.map (·.entry)) = [.h 1, .own] := by
  decide

/-- the iteration of the pinned code, before the repair of finding F15a: `for handler in queue` over the
    LIVE list, i.e. by index (the second number) into the chain as it is at each step; the first number
    only bounds the recursion -/
def walkLive (beh : Beh) (p : Nat) (k : Kind) : Nat → Nat → DState → List Entry
  | 0, _, _ => []
  | fuel + 1, i, s =>
    match (s.reg.chain p k)[i]? with
    | none => []
    | some e =>
      let r := invoke beh p k e s
      if k.interruptible && r.2.1 == Ret.interrupt then [e] else e :: walkLive beh p k fuel (i + 1) r.1

/-- live iteration is NOT what the property asks for: with chain `[h1, h2, own]`, `h1` unregistering
    itself makes `h2` be skipped, and `h1` registering another handler makes `h1` run twice — the two
    replays of F15a; the snapshot walk of the model (= the repaired code) does neither
    (`C15_order`, and the example after `C15_unregister_reentrant`). -/
theorem C15_live_iteration_skips_and_repeats :
    let s := (run (fun _ _ => ⟨[], .cont⟩) DState.init [.create 0, .register 0 .timer 2, .register 0 .timer 1]).1
    walkLive (fun c n => match c, n with
      | .handler 1, 0 => ⟨[.unreg .timer 1], .cont⟩
      | _, _ => ⟨[], .cont⟩) 0 .timer 10 0 s = [.h 1, .own] ∧
    walkLive (fun c n => match c, n with
      | .handler 1, 0 => ⟨[.reg .timer 3], .cont⟩
      | _, _ => ⟨[], .cont⟩) 0 .timer 10 0 s = [.h 1, .h 1, .h 2, .own] := by
  decide

end C15
